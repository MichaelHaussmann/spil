/-
  Spil.Lemmas.DenoteFind — helper lemmas for C10b: `FindInList.find` on a star search (no '>') is
  the list scan of C08 on the STRINGS of the search Sids `Finder.find` computes.
-/
import Spil.Spec.Denote
import Spil.Lemmas.DenoteMain
import Spil.Props.C08

namespace DenL

open Spec Ctx Find

theorem doFindGlob_star (c : Ctx) (e : Env) (f : ListFinder) (S : List Sid)
    (hgt : ∀ x ∈ S, '>' ∉ x.string) :
    c.doFindGlob (starSearch e f) S = starSearch e f (S.map (·.string)) := by
  cases S with
  | nil => rfl
  | cons x xs => exact Ctx.doFindGlob_star c _ _ (by simp) hgt

/-- a character that is in no string of the Sids, said of the list of their strings -/
theorem not_mem_strings {r : List Sid} {ch : Char} (h : ∀ x ∈ r, ch ∉ x.string) :
    ∀ p ∈ r.map (·.string), ch ∉ p := fun _ hp =>
  let ⟨x, hx, e⟩ := List.mem_map.1 hp
  e ▸ h x hx

theorem findInList_star (c : Ctx) (L : List Str) (s : Str) (S : List Sid)
    (hS : c.findSearches s = .ok S) (hgt : ∀ p ∈ S.map (·.string), '>' ∉ p)
    (hbr : ∀ p ∈ S.map (·.string), '[' ∉ p) :
    ∃ R, c.findInList ⟨L, false⟩ s = .ok R ∧ R.Nodup ∧
      ∀ x, x ∈ R ↔ (x ∈ L ∧ ∃ p ∈ S.map (·.string), Glob p x) := by
  have hfind : c.findInList ⟨L, false⟩ s = starSearch c.env ⟨L, false⟩ (S.map (·.string)) := by
    unfold Ctx.findInList
    rw [hS]
    exact doFindGlob_star c c.env _ S fun x hx => hgt _ (List.mem_map.2 ⟨x, hx, rfl⟩)
  rw [hfind, C08.c08_star_search c.env L _ hbr]
  refine ⟨_, rfl, ?_⟩
  exact C08.c08_star_search_mem c.env L _ hbr _ (C08.c08_star_search c.env L _ hbr)

/-- list search on an unfolded star search: C08 composed with C07 -/
theorem findInList_agree (c : Ctx) (s : Str) (hag : SearchesAgree c s) (L : List Str)
    (r : List Sid) (h : c.unfoldSearch s false false = .ok r)
    (hgt : ∀ p ∈ r.map (·.string), '>' ∉ p) (hbr : ∀ p ∈ r.map (·.string), '[' ∉ p) :
    ∃ R, c.findInList ⟨L, false⟩ s = .ok R ∧ R.Nodup ∧
      ∀ x, x ∈ R ↔ (x ∈ L ∧ ∃ p ∈ r.map (·.string), Glob p x) := by
  obtain ⟨S, hS, hstr⟩ := hag r h
  obtain ⟨R, hR, hnd, hmem⟩ := findInList_star c L s S hS
    (fun p hp => hgt p ((hstr p).1 hp)) (fun p hp => hbr p ((hstr p).1 hp))
  exact ⟨R, hR, hnd, fun x => by rw [hmem x]; simp only [hstr]⟩

/-- a string that is visibly a search (contains a search symbol) or ends in an alias is unfolded
    by `Finder.find` -/
theorem findSearches_proper (c : Ctx) (hwf : sidTableOk c.env c.cfg.sid.templates = true) (s : Str)
    (hq : '?' ∉ s) (hc : ':' ∉ s)
    (hp : c.isSearchStr s = true ∨
      (c.cfg.sid.extensionAlias.lookup (lastSeg s)).isSome = true) :
    c.findSearches s = c.unfoldSearch s false false := by
  unfold lastSeg at hp
  apply findSearches_unfolds c s _ (ExpL.sidOfString_plain c hwf s hq hc)
  simp only [Ctx.isSearch, Ctx.isAliasSearch, ExpL.plainOf_string]
  rcases hp with hp | hp
  · simp [hp]
  · simp [hp]

/-! ### concrete strings -/

theorem count_stars_zero (s : Str) (h : '*' ∉ s) : Str.count s slashStars = 0 := by
  rw [Str.count_eq_countGo _ _ ExpL.slashStars_ne_nil]
  exact (Str.countGo_eq_zero_iff _ ExpL.slashStars_ne_nil s).2 fun hin => h (hin.subset (by simp [slashStars]))

theorem picks_plain_iff (c : Ctx) (s : Str) (hcm : ',' ∉ s)
    (hnal : c.cfg.sid.extensionAlias.lookup (lastSeg s) = none) (a : Str) :
    Picks c s a ↔ a = s := by
  have hseg : ∀ p ∈ Str.splitOn '/' s, ',' ∉ p := fun p hp h =>
    hcm ((Str.splitOn_infix '/' s p hp).subset h)
  have hjoin : Str.joinWith '/' ((Str.splitOn '/' s).dropLast ++ [lastSeg s]) = s := by
    rw [← parts_decomp, Str.join_split]
  rw [picks_iff_choice]
  unfold lastSeg at hnal hjoin
  constructor
  · rintro ⟨picks, hc, l, hl, rfl⟩
    rw [(choice_plain _ _ hseg).1 hc] at hl ⊢
    rw [aliasAlts, hnal] at hl
    rw [List.mem_singleton.1 hl, hjoin]
  · rintro rfl
    exact ⟨_, (choice_plain _ _ hseg).2 rfl, _, by simp [aliasAlts, hnal], hjoin.symm⟩

theorem picks_self (c : Ctx) (s : Str) (hcm : ',' ∉ s)
    (hnal : c.cfg.sid.extensionAlias.lookup (lastSeg s) = none) :
    Picks c s s :=
  (picks_plain_iff c s hcm hnal s).2 rfl

end DenL
