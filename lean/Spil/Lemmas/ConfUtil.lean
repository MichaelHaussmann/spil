/-
  Spil.Lemmas.ConfUtil — what `extrapolateTemplates` computes (C19): the inner loop appends to the
  accumulator one block per extrapolated type (`BlkSpec`), the outer loop interleaves the explicit
  entries with their blocks and keeps names and generated templates distinct (`GoSpec`);
  `patternReplacing` pointwise.
-/
import Spil.Model.Conf
import Spil.Lemmas.Str
import Spil.Lemmas.Dict

namespace Str

/-- = `Str.join_split` -/
theorem joinWith_splitOn (sep : Char) (s : Str) : joinWith sep (splitOn sep s) = s := join_split sep s

end Str

namespace C19

open ConfUtil

/-- the proper, non-empty '/'-prefixes of a template, longest first -/
def properPrefixes (template : Str) : List Str :=
  let parts := Str.splitOn '/' template
  ((List.range (parts.length - 1)).reverse).map (fun k => Str.joinWith '/' (parts.take (k + 1)))

/-- the name given to the prefix `q` of a template of type `ty`:
    `ty` without its trailing keytype, followed by the key of the last placeholder of `q` -/
def prefixName (sep ty q : Str) : Str :=
  ty.take (ty.length - (keytypeOf sep ty).length) ++ keyOfPart (((Str.splitOn '/' q).getLast?).getD [])

end C19

/-! ### `extrapolateOne` -/

namespace ConfUtil

/-- `C19.prefixName` with the keytype as a parameter, as the inner loop receives it -/
def pname (ty kt q : Str) : Str :=
  ty.take (ty.length - kt.length) ++ keyOfPart (((Str.splitOn '/' q).getLast?).getD [])

/-- the joined prefixes of `P` of lengths `n, n-1, …, 1`: `C19.properPrefixes` with the number of
    parts still to go as a parameter, as the inner loop counts it down -/
def candsN (P : List Str) (n : Nat) : List Str :=
  ((List.range n).reverse).map (fun k => Str.joinWith '/' (P.take (k + 1)))

theorem prefixName_eq_pname (sep ty : Str) :
    C19.prefixName sep ty = pname ty (keytypeOf sep ty) := rfl

theorem properPrefixes_eq_candsN (t : Str) :
    C19.properPrefixes t = candsN (Str.splitOn '/' t) ((Str.splitOn '/' t).length - 1) := rfl

theorem candsN_succ (P : List Str) (n : Nat) :
    candsN P (n + 1) = Str.joinWith '/' (P.take (n + 1)) :: candsN P n := by
  simp [candsN, List.range_succ]

/-- the template `c`, or the name `nm c` it would get, is already in `orig` or in `l` -/
def Taken (orig l : List (Str × Str)) (nm : Str → Str) (c : Str) : Prop :=
  c ∈ orig.map (·.2) ∨ c ∈ l.map (·.2) ∨ nm c ∈ orig.map (·.1) ∨ nm c ∈ l.map (·.1)

/-- the test of the inner loop -/
theorem taken_iff (orig acc : List (Str × Str)) (nm : Str → Str) (c : Str) :
    (((orig.any fun x => x.2 == c) || acc.any fun x => x.2 == c) ||
      ((orig.any fun x => x.1 == nm c) || acc.any fun x => x.1 == nm c)) = true ↔
      Taken orig acc nm c := by
  simp only [Taken, Bool.or_eq_true, Lst.any_fst_beq, Lst.any_snd_beq, or_assoc]

theorem Taken.mono {orig l l' : List (Str × Str)} {nm : Str → Str} {c : Str}
    (hsub : ∀ x ∈ l, x ∈ l') (h : Taken orig l nm c) : Taken orig l' nm c :=
  h.imp_right (Or.imp (fun hy => List.map_subset _ hsub hy)
    (Or.imp_right fun hy => List.map_subset _ hsub hy))

/-- when `l` contains `orig`, only `l` matters -/
theorem Taken.merge {orig l : List (Str × Str)} {nm : Str → Str} {c : Str}
    (hsub : ∀ x ∈ orig, x ∈ l) (h : Taken orig l nm c) :
    c ∈ l.map (·.2) ∨ nm c ∈ l.map (·.1) := by
  rcases h with h | h | h | h
  · exact Or.inl (List.map_subset _ hsub h)
  · exact Or.inl h
  · exact Or.inr (List.map_subset _ hsub h)
  · exact Or.inr h

/-- what one run of the inner loop appends to `acc`.  `freshN` / `freshT` speak of `orig` AND
    `acc`: that is what lets the block be appended (`names_nodup`, `gen_nodup`). -/
structure BlkSpec (orig acc blk : List (Str × Str)) (nm : Str → Str) (cands : List Str) : Prop where
  sub : (blk.map (·.2)).Sublist cands
  name : ∀ q ∈ blk, q.1 = nm q.2
  freshN : ∀ q ∈ blk, q.1 ∉ orig.map (·.1) ∧ q.1 ∉ acc.map (·.1)
  freshT : ∀ q ∈ blk, q.2 ∉ orig.map (·.2) ∧ q.2 ∉ acc.map (·.2)
  ndN : (blk.map (·.1)).Nodup
  ndT : (blk.map (·.2)).Nodup
  /-- no candidate is skipped unless it is taken -/
  compl : ∀ c ∈ cands, Taken orig (acc ++ blk) nm c

section blk

variable {orig acc blk : List (Str × Str)} {nm : Str → Str} {cands : List Str} {c : Str}

theorem BlkSpec.nil (orig acc : List (Str × Str)) (nm : Str → Str) : BlkSpec orig acc [] nm [] := by
  constructor <;> simp

/-- a taken candidate is skipped -/
theorem BlkSpec.skip (hs : BlkSpec orig acc blk nm cands) (ht : Taken orig acc nm c) :
    BlkSpec orig acc blk nm (c :: cands) :=
  { hs with
    sub := hs.sub.cons _
    compl := List.forall_mem_cons.2 ⟨ht.mono fun _ hx => List.mem_append_left _ hx, hs.compl⟩ }

/-- a free candidate is stored under its name, in front of what the rest of the run appends -/
theorem BlkSpec.cons (hs : BlkSpec orig (acc ++ [(nm c, c)]) blk nm cands)
    (ht : ¬ Taken orig acc nm c) : BlkSpec orig acc ((nm c, c) :: blk) nm (c :: cands) := by
  simp only [Taken, not_or] at ht
  obtain ⟨hc1, hc2, hc3, hc4⟩ := ht
  have hfN := hs.freshN
  have hfT := hs.freshT
  simp only [List.map_append, List.mem_append, List.map_cons, List.map_nil,
    List.mem_singleton, not_or] at hfN hfT
  exact {
    sub := by simpa using hs.sub.cons_cons c
    name := List.forall_mem_cons.2 ⟨rfl, hs.name⟩
    freshN := List.forall_mem_cons.2 ⟨⟨hc3, hc4⟩, fun q hq => ⟨(hfN q hq).1, (hfN q hq).2.1⟩⟩
    freshT := List.forall_mem_cons.2 ⟨⟨hc1, hc2⟩, fun q hq => ⟨(hfT q hq).1, (hfT q hq).2.1⟩⟩
    ndN := List.nodup_cons.2
      ⟨fun hm => let ⟨q, hq, e⟩ := List.mem_map.1 hm; (hfN q hq).2.2 e, hs.ndN⟩
    ndT := List.nodup_cons.2
      ⟨fun hm => let ⟨q, hq, e⟩ := List.mem_map.1 hm; (hfT q hq).2.2 e, hs.ndT⟩
    compl := List.forall_mem_cons.2
      ⟨Or.inr (Or.inl (by simp)), fun c' hc' => by rw [List.append_cons]; exact hs.compl c' hc'⟩ }

theorem BlkSpec.names_nodup (hs : BlkSpec orig acc blk nm cands) (h : (acc.map (·.1)).Nodup) :
    ((acc ++ blk).map (·.1)).Nodup := by
  rw [List.map_append]
  refine List.nodup_append.2 ⟨h, hs.ndN, ?_⟩
  intro a ha b hb e
  subst e
  obtain ⟨q, hq, e⟩ := List.mem_map.1 hb
  exact (hs.freshN q hq).2 (e ▸ ha)

end blk

theorem extrapolateOne_spec (sep ty kt : Str) (orig : List (Str × Str)) (P : List Str)
    (hP : ∀ p ∈ P, '/' ∉ p) :
    ∀ n acc, n ≤ P.length → ∃ blk,
      extrapolateOne sep ty kt orig n (P.take n) acc = acc ++ blk ∧
      BlkSpec orig acc blk (pname ty kt) (candsN P n) := by
  intro n
  induction n with
  | zero =>
    intro acc _
    refine ⟨[], by simp [extrapolateOne], ?_⟩
    constructor <;> simp [candsN]
  | succ n ih =>
    intro acc hn
    have hlt : n < P.length := hn
    have hcur : P.take (n + 1) = P.take n ++ [P[n]] := (List.take_append_getElem hlt).symm
    have hlast : (P.take (n + 1)).getLast? = some P[n] := by rw [hcur]; exact List.getLast?_concat
    have hdrop : (P.take (n + 1)).dropLast = P.take n := by rw [hcur]; exact List.dropLast_concat
    have hsplit : Str.splitOn '/' (Str.joinWith '/' (P.take (n + 1))) = P.take (n + 1) :=
      Str.split_join _ _ (by intro h; rw [h] at hlast; simp at hlast) (fun p hp => hP p (List.mem_of_mem_take hp))
    have hname : ty.take (ty.length - kt.length) ++ keyOfPart P[n]
        = pname ty kt (Str.joinWith '/' (P.take (n + 1))) := by
      simp [pname, hsplit, hlast]
    simp only [extrapolateOne, hlast, hdrop, hname]
    generalize hT : Str.joinWith '/' (P.take (n + 1)) = newT
    rw [candsN_succ, hT]
    by_cases hc : (((orig.any fun x => x.snd == newT) || acc.any fun x => x.snd == newT) ||
        ((orig.any fun x => x.fst == pname ty kt newT) ||
          acc.any fun x => x.fst == pname ty kt newT)) = true
    · rw [if_pos hc]
      obtain ⟨blk, heq, hs⟩ := ih acc (Nat.le_of_lt hlt)
      exact ⟨blk, heq, hs.skip ((taken_iff ..).1 hc)⟩
    · rw [if_neg hc]
      obtain ⟨blk, heq, hs⟩ := ih (acc ++ [(pname ty kt newT, newT)]) (Nat.le_of_lt hlt)
      exact ⟨_ :: blk, by rw [heq]; simp, hs.cons (mt (taken_iff ..).2 hc)⟩

/-! ### `extrapolateGo` -/

/-- the generated entries of `l`: those whose name is not a name of `orig`. Only their templates
    are pairwise distinct; two explicit entries may share a template. -/
def gen (orig l : List (Str × Str)) : List (Str × Str) :=
  l.filter (fun p => !(orig.map (·.1)).contains p.1)

theorem gen_snoc_explicit (orig acc : List (Str × Str)) (e : Str × Str) (h : e ∈ orig) :
    gen orig (acc ++ [e]) = gen orig acc := by
  have : (orig.map (·.1)).contains e.1 = true := List.contains_iff_mem.2 (List.mem_map.2 ⟨e, h, rfl⟩)
  simp only [gen, List.filter_append, List.filter_cons, this, Bool.not_true, Bool.false_eq_true,
    if_false, List.filter_nil, List.append_nil]

section blk

variable {orig acc blk : List (Str × Str)} {nm : Str → Str} {cands : List Str}

theorem BlkSpec.gen_append (hs : BlkSpec orig acc blk nm cands) :
    gen orig (acc ++ blk) = gen orig acc ++ blk := by
  have hb : blk.filter (fun p => !(orig.map (·.1)).contains p.1) = blk :=
    List.filter_eq_self.2 fun q hq => by simpa using (hs.freshN q hq).1
  simp only [gen, List.filter_append, hb]

theorem BlkSpec.gen_nodup (hs : BlkSpec orig acc blk nm cands)
    (h : ((gen orig acc).map (·.2)).Nodup) : ((gen orig (acc ++ blk)).map (·.2)).Nodup := by
  rw [hs.gen_append, List.map_append]
  refine List.nodup_append.2 ⟨h, hs.ndT, ?_⟩
  intro a ha b hb e
  subst e
  obtain ⟨q, hq, e⟩ := List.mem_map.1 hb
  obtain ⟨q', hq', e'⟩ := List.mem_map.1 ha
  exact (hs.freshT q hq).2 (e ▸ List.mem_map.2 ⟨q', (List.mem_filter.1 hq').1, e'⟩)

end blk

/-- one iteration of the outer loop, after the explicit entry has been stored -/
theorem extrapolate_step_spec (sep : Str) (ex : List Str) (orig : List (Str × Str)) (ty t : Str)
    (acc : List (Str × Str)) :
    ∃ blk,
      (if ex.contains ty then
          extrapolateOne sep ty (keytypeOf sep ty) orig (Str.splitOn '/' t).dropLast.length
            (Str.splitOn '/' t).dropLast acc
        else acc) = acc ++ blk ∧
      (ex.contains ty = false → blk = []) ∧
      BlkSpec orig acc blk (C19.prefixName sep ty) (if ex.contains ty then C19.properPrefixes t else []) := by
  by_cases hex : ex.contains ty = true
  · simp only [hex, if_true]
    have h := extrapolateOne_spec sep ty (keytypeOf sep ty) orig (Str.splitOn '/' t)
      (Str.splitOn_not_mem '/' t) ((Str.splitOn '/' t).length - 1) acc (Nat.sub_le _ _)
    rw [← List.dropLast_eq_take, ← properPrefixes_eq_candsN, ← prefixName_eq_pname] at h
    obtain ⟨blk, heq, hs⟩ := h
    refine ⟨blk, ?_, by simp, hs⟩
    rw [List.length_dropLast]; exact heq
  · simp only [hex]
    exact ⟨[], by simp, fun _ => rfl, BlkSpec.nil _ _ _⟩

/-- the block `blk` generated for the explicit entry `e` -/
structure EntryBlk (sep : Str) (ex : List Str) (orig : List (Str × Str)) (e : Str × Str)
    (blk : List (Str × Str)) : Prop where
  nil : ex.contains e.1 = false → blk = []
  sub : (blk.map (·.2)).Sublist (C19.properPrefixes e.2)
  name : ∀ q ∈ blk, q.1 = C19.prefixName sep e.1 q.2
  freshN : ∀ q ∈ blk, q.1 ∉ orig.map (·.1)
  freshT : ∀ q ∈ blk, q.2 ∉ orig.map (·.2)

/-- the invariant of the outer loop on the entries `rest` still to visit and the accumulator `acc`
    (`sub`, `ndRest` come from the precondition on the table, the other three are established by
    the loop) -/
structure AccOk (orig rest acc : List (Str × Str)) : Prop where
  sub : ∀ r ∈ rest, r ∈ orig
  ndRest : (rest.map (·.1)).Nodup
  fresh : ∀ r ∈ rest, r.1 ∉ acc.map (·.1)
  ndN : (acc.map (·.1)).Nodup
  ndT : ((gen orig acc).map (·.2)).Nodup

/-- one turn of the outer loop: the explicit entry is stored, then its block -/
theorem AccOk.step {orig rest acc blk : List (Str × Str)} {e : Str × Str} {nm : Str → Str}
    {cands : List Str} (h : AccOk orig (e :: rest) acc) (hs : BlkSpec orig (acc ++ [e]) blk nm cands) :
    AccOk orig rest (acc ++ [e] ++ blk) := by
  have he := h.sub e (by simp)
  have hnd := List.nodup_cons.1 h.ndRest
  have hsub : ∀ r ∈ rest, r ∈ orig := fun r hr => h.sub r (List.mem_cons_of_mem _ hr)
  refine ⟨hsub, hnd.2, fun r hr hm => ?_, hs.names_nodup ?_, hs.gen_nodup ?_⟩
  · simp only [List.map_append, List.mem_append, List.map_cons, List.map_nil,
      List.mem_singleton] at hm
    rcases hm with (hm | hm) | hm
    · exact h.fresh r (List.mem_cons_of_mem _ hr) hm
    · exact hnd.1 (List.mem_map.2 ⟨r, hr, hm⟩)
    · obtain ⟨q, hq, e'⟩ := List.mem_map.1 hm
      exact (hs.freshN q hq).1 (e' ▸ List.mem_map.2 ⟨r, hsub r hr, rfl⟩)
  · rw [List.map_append]
    exact (Lst.nodup_snoc _ _).2 ⟨h.ndN, h.fresh e (by simp)⟩
  · rw [gen_snoc_explicit orig acc e he]
    exact h.ndT

/-- what the outer loop has made (`res`) of the entries `rest` still to visit and the accumulator
    `acc`: `acc`, then every entry of `rest` followed by its block (`eq`, `len`, `blk`); all names
    are distinct (`ndN`), the generated templates are (`ndT`); no proper prefix of an extrapolated
    entry is skipped unless it is taken (`compl`) -/
structure GoSpec (sep : Str) (ex : List Str) (orig rest acc res : List (Str × Str))
    (blocks : List (List (Str × Str))) : Prop where
  len : blocks.length = rest.length
  eq : res = acc ++ (rest.zip blocks).flatMap (fun pb => pb.1 :: pb.2)
  blk : ∀ pb ∈ rest.zip blocks, EntryBlk sep ex orig pb.1 pb.2
  ndN : (res.map (·.1)).Nodup
  ndT : ((gen orig res).map (·.2)).Nodup
  compl : ∀ r ∈ rest, r.1 ∈ ex → ∀ c ∈ C19.properPrefixes r.2,
    Taken orig res (C19.prefixName sep r.1) c

theorem extrapolateGo_spec (sep : Str) (ex : List Str) (orig : List (Str × Str)) :
    ∀ rest acc, AccOk orig rest acc →
      ∃ blocks, GoSpec sep ex orig rest acc (extrapolateGo sep ex orig rest acc) blocks := by
  intro rest
  induction rest with
  | nil =>
    intro acc h
    exact ⟨[], { len := rfl, eq := by simp [extrapolateGo], blk := by simp,
                 ndN := by simpa [extrapolateGo] using h.ndN,
                 ndT := by simpa [extrapolateGo] using h.ndT, compl := by simp }⟩
  | cons e rest ih =>
    obtain ⟨ty, t⟩ := e
    intro acc h
    simp only [extrapolateGo, Dict.set_append_new acc ty t (h.fresh (ty, t) (by simp))]
    obtain ⟨blk, heq, hnil, hs⟩ := extrapolate_step_spec sep ex orig ty t (acc ++ [(ty, t)])
    rw [heq]
    obtain ⟨blocks, hg⟩ := ih _ (h.step hs)
    have hsub : ∀ x ∈ acc ++ [(ty, t)] ++ blk,
        x ∈ extrapolateGo sep ex orig rest (acc ++ [(ty, t)] ++ blk) :=
      fun x hx => hg.eq ▸ List.mem_append_left _ hx
    have hblk : EntryBlk sep ex orig (ty, t) blk := by
      refine ⟨hnil, ?_, hs.name, fun q hq => (hs.freshN q hq).1, fun q hq => (hs.freshT q hq).1⟩
      have := hs.sub
      split at this
      · exact this
      · rw [List.sublist_nil.1 this]; exact List.nil_sublist _
    refine ⟨blk :: blocks, {
      len := by simp [hg.len]
      eq := by rw [hg.eq]; simp [List.append_assoc]
      blk := List.forall_mem_cons.2 ⟨hblk, hg.blk⟩
      ndN := hg.ndN
      ndT := hg.ndT
      compl := ?_ }⟩
    intro r hr hrex c hc
    rcases List.mem_cons.1 hr with rfl | hr
    · exact (hs.compl c (by rw [if_pos (List.contains_iff_mem.2 hrex)]; exact hc)).mono hsub
    · exact hg.compl r hr hrex c hc

theorem extrapolateTemplates_spec (sep : Str) (ts : List (Str × Str)) (ex : List Str)
    (hd : (ts.map (·.1)).Nodup) :
    ∃ blocks, GoSpec sep ex ts ts [] (extrapolateTemplates sep ts ex) blocks :=
  extrapolateGo_spec sep ex ts ts [] ⟨fun _ h => h, hd, by simp, by simp, by simp [gen]⟩

theorem filter_interleave {α : Type} (p : α → Bool) :
    ∀ (rest : List α) (blocks : List (List α)), blocks.length = rest.length →
      (∀ pb ∈ rest.zip blocks, p pb.1 = true ∧ ∀ q ∈ pb.2, p q = false) →
      ((rest.zip blocks).flatMap (fun pb => pb.1 :: pb.2)).filter p = rest := by
  intro rest
  induction rest with
  | nil => intro blocks _ _; simp
  | cons e rest ih =>
    intro blocks hlen h
    cases blocks with
    | nil => simp at hlen
    | cons b blocks =>
      rw [List.zip_cons_cons] at h ⊢
      have hh := h (e, b) (by simp)
      have hb : b.filter p = [] := by
        rw [List.filter_eq_nil_iff]
        intro q hq; simp [hh.2 q hq]
      simp only [List.flatMap_cons, List.filter_append, List.filter_cons, hh.1, if_true, hb]
      rw [ih blocks (by simpa using hlen) (fun pb hpb => h pb (List.mem_cons_of_mem _ hpb))]
      rfl

theorem mem_interleave {α : Type} {x : α} {rest : List α} {blocks : List (List α)}
    (h : x ∈ (rest.zip blocks).flatMap (fun pb => pb.1 :: pb.2)) :
    ∃ pb ∈ rest.zip blocks, x = pb.1 ∨ x ∈ pb.2 := by
  obtain ⟨pb, hpb, hx⟩ := List.mem_flatMap.1 h
  exact ⟨pb, hpb, List.mem_cons.1 hx⟩

/-- in the result of the top call the name tells an explicit entry from a generated one -/
theorem names_of_interleave (sep : Str) (ts : List (Str × Str)) (ex : List Str)
    (blocks : List (List (Str × Str)))
    (hg : GoSpec sep ex ts ts [] (extrapolateTemplates sep ts ex) blocks) :
    ∀ pb ∈ ts.zip blocks, (ts.map (·.1)).contains pb.1.1 = true ∧
      ∀ q ∈ pb.2, (ts.map (·.1)).contains q.1 = false := by
  intro pb hpb
  constructor
  · exact List.contains_iff_mem.2 (List.mem_map.2 ⟨pb.1, (List.of_mem_zip hpb).1, rfl⟩)
  · intro q hq
    cases h : (ts.map (·.1)).contains q.1
    · rfl
    · exact absurd (List.contains_iff_mem.1 h) ((hg.blk pb hpb).freshN q hq)

/-! ### `patternReplacing` -/

theorem replaceForType_eq (kp : List (Str × List (Str × Str))) (ty : Str) :
    ∀ t, replaceForType kp ty t =
      (kp.filter (fun m => Str.isInfix m.1 ty)).foldl (fun t m => applyReplacements t m.2) t := by
  induction kp with
  | nil => intro t; rfl
  | cons m kp ih =>
    intro t
    obtain ⟨sel, reps⟩ := m
    unfold replaceForType at ih ⊢
    rw [List.foldl_cons, List.filter_cons]
    by_cases h : Str.isInfix sel ty = true
    · simp only [h, if_true, List.foldl_cons]; exact ih _
    · simp only [h]; exact ih _

theorem replaceForType_of_no_sel (kp : List (Str × List (Str × Str))) (ty t : Str)
    (h : ∀ m ∈ kp.map (·.1), Str.isInfix m ty = false) : replaceForType kp ty t = t := by
  rw [replaceForType_eq]
  have : kp.filter (fun m => Str.isInfix m.1 ty) = [] := by
    rw [List.filter_eq_nil_iff]
    intro m hm
    simp [h m.1 (List.mem_map.2 ⟨m, hm, rfl⟩)]
  rw [this]; rfl

theorem patternReplacing_eq (ts : List (Str × Str)) (kp : List (Str × List (Str × Str))) :
    patternReplacing ts kp = ts.map (fun p => (p.1, replaceForType kp p.1 p.2)) := rfl

end ConfUtil
