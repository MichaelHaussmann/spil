/-
  Spil.Lemmas.Template — the compiled regular expression of a well-formed sid template, the shape
  of its successes, which success `Re.search` selects, and what `matchToDict` / `format` /
  `keysEq` compute on it.
-/
import Spil.Spec.Sid
import Spil.Lemmas.ReRun
import Spil.Lemmas.Dict
import Spil.Lemmas.Digits

namespace SidL

open Spec

/-! ### shape of a well-formed sid template -/

/-- `t` is `{k1:e1}/{k2:e2}/…/{kn:en}` with placeholders `ps` -/
inductive SidShape : Template → List (Str × Re) → Prop
  | one (k : Str) (e : Re) : SidShape [.ph k e] [(k, e)]
  | cons (k : Str) (e : Re) (rest : Template) (p : Str × Re) (ps : List (Str × Re)) :
      SidShape rest (p :: ps) → SidShape (.ph k e :: .lit ['/'] :: rest) ((k, e) :: p :: ps)

theorem alternates_cases (t : Template) (h : alternates t = true) :
    (∃ k e, t = [.ph k e]) ∨
    (∃ k e rest, t = .ph k e :: .lit ['/'] :: rest ∧ alternates rest = true) := by
  unfold alternates at h
  split at h
  · exact Or.inl ⟨_, _, rfl⟩
  · exact Or.inr ⟨_, _, _, rfl, h⟩
  · simp at h

theorem phs_ne_nil_of_alternates (t : Template) (h : alternates t = true) : phs t ≠ [] := by
  rcases alternates_cases t h with ⟨k, e, rfl⟩ | ⟨k, e, rest, rfl, _⟩ <;> simp [phs]

theorem sidShape_of_alternates (t : Template) (h : alternates t = true) : SidShape t (phs t) := by
  induction hn : t.length using Nat.strongRecOn generalizing t with
  | _ n ih =>
    rcases alternates_cases t h with ⟨k, e, rfl⟩ | ⟨k, e, rest, rfl, hr⟩
    · exact SidShape.one k e
    · have hne := phs_ne_nil_of_alternates rest hr
      have := ih rest.length (by subst hn; simp; omega) rest hr rfl
      simp only [phs]
      match hp : phs rest with
      | [] => exact absurd hp hne
      | p :: ps => rw [hp] at this; exact SidShape.cons k e rest p ps this

theorem SidShape.ne_nil {t : Template} {ps : List (Str × Re)} (h : SidShape t ps) : ps ≠ [] := by
  cases h <;> simp

theorem SidShape.phs_eq {t : Template} {ps : List (Str × Re)} (h : SidShape t ps) : phs t = ps := by
  induction h with
  | one k e => simp [phs]
  | cons k e rest p ps _ ih => simp [phs, ih]

theorem distinct_iff_nodup (l : List Str) : distinct l = true ↔ l.Nodup :=
  Lst.distinctB_iff_nodup rfl (fun _ _ => rfl) l

/-! ### the compiled expression -/

/-- resolva's name for the first group of key `k`: `k001` -/
def nm (k : Str) : Str := k ++ ['0', '0', '1']

/-- the compiled expression of `{k1:e1}/…/{kn:en}` -/
def sidRe : List (Str × Re) → Re
  | [] => .eps
  | [(k, e)] => .grp (nm k) e
  | (k, e) :: p :: ps => .seq (.grp (nm k) e) (.seq (.cls (.lit '/')) (sidRe (p :: ps)))

theorem countKey_append (k : Str) (a b : List Tok) :
    Template.countKey k (a ++ b) = Template.countKey k a + Template.countKey k b := by
  induction a with
  | nil => simp [Template.countKey]
  | cons x a ih =>
    cases x with
    | lit s => simp [Template.countKey, ih]
    | ph k' e => simp [Template.countKey, ih]; omega

theorem items_ne_nil {t : Template} {ps : List (Str × Re)} (h : SidShape t ps) (seen : List Tok) :
    Template.items seen t ≠ [] := by
  cases h <;> simp [Template.items]

theorem mkSeq_items {t : Template} {ps : List (Str × Re)} (h : SidShape t ps) :
    ∀ seen, (ps.map (·.1)).Nodup → (∀ k ∈ ps.map (·.1), Template.countKey k seen = 0) →
      Re.mkSeq (Template.items seen t) = sidRe ps := by
  induction h with
  | one k e =>
    intro seen _ hc
    have := hc k (by simp)
    simp [Template.items, this, Re.mkSeq, sidRe, nm, Str.pad3_one]
  | cons k e rest p ps hs ih =>
    intro seen hnd hc
    have hk := hc k (by simp)
    simp only [List.map_cons, List.nodup_cons] at hnd
    have hrest := ih (seen ++ [.ph k e] ++ [.lit ['/']]) (by simpa using hnd.2) (by
      intro k' hk'
      have h0 := hc k' (by simp only [List.map_cons, List.mem_cons]; right; simpa using hk')
      have hne : k ≠ k' := by
        intro heq; subst heq; exact hnd.1 (by simpa using hk')
      simp [countKey_append, Template.countKey, h0, hne])
    have hne := items_ne_nil hs (seen ++ [.ph k e] ++ [.lit ['/']])
    simp only [Template.items, List.map_cons, List.map_nil, List.singleton_append]
    rw [mkSeq_cons_of_ne _ _ (by simp), mkSeq_cons_of_ne _ _ hne, hrest]
    simp [sidRe, hk, nm, Str.pad3_one, Template.litCls]

theorem compile_eq {t : Template} {ps : List (Str × Re)} (h : SidShape t ps)
    (hnd : (ps.map (·.1)).Nodup) : Template.compile t = sidRe ps := by
  unfold Template.compile
  exact mkSeq_items h [] hnd (by intro k _; rfl)

/-! ### shape of the successes of the compiled expression -/

theorem acceptsSegs_length (e : Env) (ps : List (Str × Re)) (segs : List Str)
    (h : acceptsSegs e ps segs = true) : segs.length = ps.length := by
  induction ps generalizing segs with
  | nil => cases segs <;> simp_all [acceptsSegs]
  | cons p ps ih =>
    cases segs with
    | nil => simp [acceptsSegs] at h
    | cons g gs =>
      simp only [acceptsSegs, Bool.and_eq_true] at h
      simp [ih gs h.2]

theorem acceptsSegs_nil_splitOn (e : Env) (sep : Char) (s : Str) :
    acceptsSegs e [] (Str.splitOn sep s) = false := by
  cases hs : Str.splitOn sep s with
  | nil => exact absurd hs (Str.splitOn_ne_nil sep s)
  | cons a as => rfl

theorem matches_sep_iff (e : Env) (n : Str) (ex b : Re) (hn : ex.noGrp = true) (m : Str) (c : Caps) :
    Re.Matches e (.seq (.grp n ex) (.seq (.cls (.lit '/')) b)) m c ↔
      ∃ g rest c', m = g ++ '/' :: rest ∧ ex.accepts e g = true ∧ Re.Matches e b rest c' ∧
        c = (n, g) :: c' := by
  constructor
  · intro h
    cases h with
    | seq h1 h2 =>
      cases h2 with
      | seq h3 h4 =>
        cases h3 with
        | cls hd =>
          obtain ⟨hacc, rfl⟩ := (matches_grp_noGrp e n ex hn _ _).mp h1
          have hd' := eq_of_beq hd; subst hd'
          exact ⟨_, _, _, rfl, hacc, h4, rfl⟩
  · rintro ⟨g, rest, c', rfl, hacc, hb, rfl⟩
    exact .seq ((matches_grp_noGrp e n ex hn g _).mpr ⟨hacc, rfl⟩)
      (.seq (c1 := []) (.cls (c := '/') (by simp [Cls.test])) hb)

theorem sidRe_matches_iff (e : Env) (ps : List (Str × Re)) (hne : ps ≠ [])
    (hsf : ∀ p ∈ ps, p.2.slashFree e = true ∧ p.2.noGrp = true) (m : Str) (c : Caps) :
    Re.Matches e (sidRe ps) m c ↔
      acceptsSegs e ps (Str.splitOn '/' m) = true ∧
      c = (ps.map (fun p => nm p.1)).zip (Str.splitOn '/' m) := by
  induction ps generalizing m c with
  | nil => exact absurd rfl hne
  | cons p ps ih =>
    obtain ⟨k, ex⟩ := p
    have hk := hsf (k, ex) (by simp)
    cases ps with
    | nil =>
      rw [sidRe, matches_grp_noGrp e _ ex hk.2]
      rcases Str.first_sep '/' m with hno | ⟨g, rest, rfl, hg⟩
      · simp [Str.splitOn_of_not_mem _ _ hno, acceptsSegs]
      · have : ex.accepts e (g ++ '/' :: rest) ≠ true :=
          fun h => accepts_slashFree e ex _ hk.1 h (by simp)
        simp [Str.splitOn_append_sep _ _ _ hg, acceptsSegs, acceptsSegs_nil_splitOn, this]
    | cons q qs =>
      have ih' := ih (by simp) (fun p hp => hsf p (by simp [hp]))
      rw [sidRe, matches_sep_iff e _ ex _ hk.2]
      constructor
      · rintro ⟨g, rest, c', rfl, hacc, hb, rfl⟩
        obtain ⟨h1, rfl⟩ := (ih' rest c').mp hb
        rw [Str.splitOn_append_sep _ _ _ (accepts_slashFree e ex g hk.1 hacc)]
        simp [acceptsSegs, hacc, h1]
      · rintro ⟨h, rfl⟩
        rcases Str.first_sep '/' m with hno | ⟨g, rest, rfl, hg⟩
        · simp [Str.splitOn_of_not_mem _ _ hno, acceptsSegs] at h
        · rw [Str.splitOn_append_sep _ _ _ hg] at h ⊢
          simp only [acceptsSegs, Bool.and_eq_true] at h
          exact ⟨g, rest, _, rfl, h.1, (ih' rest _).mpr ⟨h.2, rfl⟩, by simp⟩

theorem sidRe_run_iff (e : Env) (ps : List (Str × Re)) (hne : ps ≠ [])
    (hsf : ∀ p ∈ ps, p.2.slashFree e = true ∧ p.2.noGrp = true) (s : Str) (x : Succ) :
    x ∈ (sidRe ps).run e s ↔
      s = x.1 ++ x.2.1 ∧ acceptsSegs e ps (Str.splitOn '/' x.1) = true ∧
      x.2.2 = (ps.map (fun p => nm p.1)).zip (Str.splitOn '/' x.1) := by
  obtain ⟨m, rest, c⟩ := x
  rw [mem_run_iff, sidRe_matches_iff e ps hne hsf]

/-! ### which success `$` selects -/

/-- `q` holds of the expression of the LAST placeholder -/
def lastSat (q : Re → Bool) : List (Str × Re) → Bool
  | [] => false
  | [(_, e)] => q e
  | _ :: p :: ps => lastSat q (p :: ps)

theorem lastSat_of_all (q1 q2 : Re → Bool) (ps : List (Str × Re)) (hne : ps ≠ [])
    (h : ∀ p ∈ ps, q1 p.2 = true ∨ q2 p.2 = true) :
    lastSat q1 ps = true ∨ lastSat q2 ps = true := by
  induction ps with
  | nil => exact absurd rfl hne
  | cons p ps ih =>
    cases ps with
    | nil => obtain ⟨k, e⟩ := p; simpa [lastSat] using h (k, e) (by simp)
    | cons q qs =>
      simp only [lastSat]
      exact ih (by simp) (fun x hx => h x (by simp [hx]))

theorem dollarOk_sidRe (e : Env) (ps : List (Str × Re)) (h : lastSat isFree ps = true) :
    (sidRe ps).dollarOk e := by
  induction ps with
  | nil => simp [lastSat] at h
  | cons p ps ih =>
    obtain ⟨k, ex⟩ := p
    cases ps with
    | nil =>
      simp only [lastSat, isFree, beq_iff_eq] at h
      subst h
      exact dollarOk_grp e _ _ (dollarOk_star_notSlash e)
    | cons q qs =>
      simp only [lastSat] at h
      exact dollarOk_seq e _ _ (dollarOk_seq e _ _ (ih h))

theorem not_accepts_nl (e : Env) (ps : List (Str × Re)) (h : lastSat (Re.nlFree e) ps = true) :
    ∀ m, acceptsSegs e ps (Str.splitOn '/' (m ++ ['\n'])) = true → False := by
  induction ps with
  | nil => simp [lastSat] at h
  | cons p ps ih =>
    obtain ⟨k, ex⟩ := p
    intro m hacc
    rcases Str.first_sep '/' m with hno | ⟨g, rest, rfl, hg⟩
    · rw [Str.splitOn_of_not_mem _ _ (by simp [hno])] at hacc
      cases ps with
      | cons q qs => simp [acceptsSegs] at hacc
      | nil =>
        simp only [acceptsSegs, Bool.and_eq_true, lastSat] at hacc h
        exact accepts_nlFree e ex _ h hacc.1 (by simp)
    · rw [List.append_assoc, List.cons_append, Str.splitOn_append_sep _ _ _ hg] at hacc
      cases ps with
      | nil => simp [acceptsSegs, acceptsSegs_nil_splitOn] at hacc
      | cons q qs =>
        simp only [acceptsSegs, Bool.and_eq_true, lastSat] at hacc h
        exact ih h rest hacc.2

theorem search_inv (e : Env) (ps : List (Str × Re)) (hne : ps ≠ [])
    (hsf : ∀ p ∈ ps, p.2.slashFree e = true ∧ p.2.noGrp = true)
    (s : Str) (caps : Caps) (h : (sidRe ps).search e s = some caps) :
    ∃ m, (s = m ∨ s = m ++ ['\n']) ∧ acceptsSegs e ps (Str.splitOn '/' m) = true ∧
      caps = (ps.map (fun p => nm p.1)).zip (Str.splitOn '/' m) := by
  simp only [Re.search, Option.map_eq_some_iff] at h
  obtain ⟨⟨m, rest, c⟩, hx, rfl⟩ := h
  obtain ⟨hmem, hd⟩ := find_dollar_some _ _ hx
  obtain ⟨hs, hacc, hc⟩ := (sidRe_run_iff e ps hne hsf s _).mp hmem
  refine ⟨m, ?_, hacc, hc⟩
  rcases hd with rfl | rfl
  · left; simpa using hs
  · right; exact hs

/-- Why `hlast` makes `$` harmless (the idea behind C01): `$` also holds before a final newline, so
    a shorter success could win; a last `[^/]*` offers the success that swallows the newline first,
    a last expression that accepts no newline cannot stop just before one. -/
theorem search_of_accepts (e : Env) (ps : List (Str × Re)) (hne : ps ≠ [])
    (hsf : ∀ p ∈ ps, p.2.slashFree e = true ∧ p.2.noGrp = true)
    (hlast : lastSat isFree ps = true ∨ lastSat (Re.nlFree e) ps = true)
    (s : Str) (hacc : acceptsSegs e ps (Str.splitOn '/' s) = true) :
    (sidRe ps).search e s = some ((ps.map (fun p => nm p.1)).zip (Str.splitOn '/' s)) := by
  have h0 := (sidRe_run_iff e ps hne hsf s (s, [], (ps.map (fun p => nm p.1)).zip (Str.splitOn '/' s))).mpr
    ⟨(List.append_nil s).symm, hacc, rfl⟩
  match hf : ((sidRe ps).run e s).find? (fun p => atDollar p.2.1) with
  | none => exact absurd hf (find_dollar_ne_none _ s _ h0)
  | some (m, rest, c) =>
    obtain ⟨hmem, hd⟩ := find_dollar_some _ _ hf
    obtain ⟨hs, -, hc⟩ := (sidRe_run_iff e ps hne hsf s _).mp hmem
    simp only at hd hs hc
    have hrest : rest = [] := by
      rcases hlast with hfree | hnl
      · exact dollarOk_sidRe e ps hfree s _ hf
      · rcases hd with hd | rfl
        · exact hd
        · subst hs; exact (not_accepts_nl e ps hnl m hacc).elim
    subst hrest; rw [List.append_nil] at hs; subst hs
    simp [Re.search, hf, hc]

/-! ### `matchToDict` -/

/-- what `match_to_dict` does to a group name: the three counter digits go -/
def dropCounter (n : Str) : Str := n.take (n.length - 3)

theorem dropCounter_append (k w : Str) (h : w.length = 3) : dropCounter (k ++ w) = k := by
  simp [dropCounter, h]

theorem dropCounter_nm (k : Str) : dropCounter (nm k) = k := dropCounter_append k _ rfl

theorem matchToDict_cons (cd : Bool) (name v : Str) (rest : Caps) (acc : Dict) :
    Template.matchToDict cd ((name, v) :: rest) acc =
      if cd && (acc.get (dropCounter name)).any (· != v) then .error .resolva
      else Template.matchToDict cd rest (Dict.set acc (dropCounter name) v) := by
  simp only [Template.matchToDict, dropCounter]
  split
  · next old hg => simp [hg]
  · next hg => simp [hg]

theorem matchToDict_err (cd : Bool) (caps : Caps) : ∀ (acc : Dict) (x : Err),
    Template.matchToDict cd caps acc = .error x → x = .resolva ∧ cd = true := by
  induction caps with
  | nil => intro acc x h; simp [Template.matchToDict] at h
  | cons p caps ih =>
    obtain ⟨name, v⟩ := p
    intro acc x h
    rw [matchToDict_cons] at h
    split at h
    · next hc =>
      simp only [Bool.and_eq_true] at hc
      exact ⟨by simpa using h.symm, hc.1⟩
    · exact ih _ _ h

theorem resolveTpl_err (e : Env) (cd : Bool) (t : Template) (s : Str) (x : Err)
    (h : Resolver.resolveTpl e cd t s = .error x) : x = .resolva ∧ cd = true := by
  unfold Resolver.resolveTpl at h
  split at h
  · simp at h
  · split at h
    · next hm => cases h; exact matchToDict_err _ _ _ _ hm
    · simp at h

theorem resolveTpl_some_iff (e : Env) (cd : Bool) (t : Template) (s : Str) (d : Dict) :
    Resolver.resolveTpl e cd t s = .ok (some d) ↔
      ∃ x, ((Template.compile t).run e s).find? (fun p => atDollar p.2.1) = some x ∧
        Template.matchToDict cd x.2.2 [] = .ok d ∧ d.isEmpty = false := by
  unfold Resolver.resolveTpl Re.search
  cases hf : ((Template.compile t).run e s).find? (fun p => atDollar p.2.1) with
  | none => simp
  | some x =>
    simp only [Option.map_some, Option.some.injEq, exists_eq_left']
    cases hm : Template.matchToDict cd x.2.2 [] with
    | error _ => simp
    | ok d' =>
      simp only [Except.ok.injEq]
      cases hd : d'.isEmpty with
      | true =>
        simp only [if_true, reduceCtorEq, false_iff, not_and]
        rintro rfl
        simp [hd]
      | false =>
        simp only [Bool.false_eq_true, if_false, Option.some.injEq]
        exact ⟨fun h => ⟨h, h ▸ hd⟩, fun h => h.1⟩

/-! ### `matchToDict` without the duplicate check, on the captures of a sid template -/

theorem matchToDict_zip (ks : List Str) (hnd : ks.Nodup) :
    ∀ (segs : List Str) (acc : Dict), (∀ p ∈ acc, p.1 ∉ ks) →
      Template.matchToDict false ((ks.map nm).zip segs) acc = .ok (acc ++ ks.zip segs) := by
  induction ks with
  | nil => intro segs acc _; simp [Template.matchToDict]
  | cons k ks ih =>
    intro segs acc hacc
    cases segs with
    | nil => simp [Template.matchToDict]
    | cons g gs =>
      rw [List.nodup_cons] at hnd
      simp only [List.map_cons, List.zip_cons_cons]
      rw [matchToDict_cons, dropCounter_nm, Bool.false_and, if_neg Bool.false_ne_true,
        Dict.set_append_new acc k g (fun hk => by
          obtain ⟨p, hp, rfl⟩ := List.mem_map.mp hk
          exact hacc p hp (by simp)),
        ih hnd.2 gs]
      · simp
      · intro p hp
        simp only [List.mem_append, List.mem_singleton] at hp
        rcases hp with hp | rfl
        · intro hmem; exact hacc p hp (by simp [hmem])
        · exact hnd.1

/-! ### `format`, `keys`, `keysEq` on the field dictionary -/

theorem format_lit_cons (s : Str) (rest : Template) (d : Dict) (w : Str) :
    Template.format (.lit s :: rest) d = some w ↔
      ∃ r, Template.format rest d = some r ∧ w = s ++ r := by
  simp only [Template.format, Option.map_eq_some_iff, eq_comm (a := w)]

theorem format_ph_cons (k : Str) (ex : Re) (rest : Template) (d : Dict) (w : Str) :
    Template.format (.ph k ex :: rest) d = some w ↔
      ∃ v r, d.get k = some v ∧ Template.format rest d = some r ∧ w = v ++ r := by
  simp only [Template.format]
  cases d.get k <;> cases Template.format rest d <;> simp [eq_comm]

theorem format_append (A B : Template) (d : Dict) (r : Str)
    (h : Template.format (A ++ B) d = some r) :
    ∃ ra rb, Template.format A d = some ra ∧ Template.format B d = some rb ∧ r = ra ++ rb := by
  induction A generalizing r with
  | nil => exact ⟨[], r, rfl, h, rfl⟩
  | cons tok A ih =>
    rw [List.cons_append] at h
    cases tok with
    | lit s =>
      obtain ⟨r', hr', rfl⟩ := (format_lit_cons ..).1 h
      obtain ⟨ra, rb, h1, h2, rfl⟩ := ih r' hr'
      exact ⟨s ++ ra, rb, (format_lit_cons ..).2 ⟨ra, h1, rfl⟩, h2, by simp⟩
    | ph k ex =>
      obtain ⟨v, r', hv, hr', rfl⟩ := (format_ph_cons ..).1 h
      obtain ⟨ra, rb, h1, h2, rfl⟩ := ih r' hr'
      exact ⟨v ++ ra, rb, (format_ph_cons ..).2 ⟨v, ra, hv, h1, rfl⟩, h2, by simp⟩

theorem format_some_of_hasKeys (t : Template) (d : Dict)
    (h : ∀ k ∈ Template.keys t, d.hasKey k = true) : ∃ s, Template.format t d = some s := by
  induction t with
  | nil => exact ⟨[], rfl⟩
  | cons tok rest ih =>
    cases tok with
    | lit s =>
      obtain ⟨r, hr⟩ := ih (fun k hk => h k (by simpa [Template.keys] using hk))
      exact ⟨s ++ r, by simp [Template.format, hr]⟩
    | ph k e =>
      obtain ⟨r, hr⟩ := ih fun k' hk => h k' <| by
        simp only [Template.keys, List.mem_cons, List.mem_filter, bne_iff_ne]
        exact (Decidable.em (k' = k)).imp_right (⟨hk, ·⟩)
      obtain ⟨v, hv⟩ := Dict.hasKey_get d k (h k (by simp [Template.keys]))
      exact ⟨v ++ r, by simp [Template.format, hr, hv]⟩

theorem format_some_of_keysEq (t : Template) (d : Dict) (h : Dict.keysEq d (Template.keys t) = true) :
    ∃ s, Template.format t d = some s := by
  exact format_some_of_hasKeys t d fun k hk =>
    (Dict.hasKey_iff_mem d k).2 (((Dict.keysEq_iff d _).1 h k).2 hk)

theorem format_sid {t : Template} {ps : List (Str × Re)} (h : SidShape t ps) (d : Dict) :
    ∀ segs : List Str, segs.length = ps.length →
      (∀ p ∈ (ps.map (·.1)).zip segs, d.get p.1 = some p.2) →
      Template.format t d = some (Str.joinWith '/' segs) := by
  induction h with
  | one k e =>
    intro segs hlen hd
    match segs, hlen with
    | [g], _ =>
      have := hd (k, g) (by simp)
      simp only at this
      simp [Template.format, this, Str.joinWith]
  | cons k e rest p ps _ ih =>
    intro segs hlen hd
    match segs, hlen with
    | g :: g2 :: gs, hlen =>
      have h1 := hd (k, g) (by simp)
      have h2 := ih (g2 :: gs) (by simpa using hlen) (fun x hx => hd x (by
        simp only [List.map_cons, List.zip_cons_cons, List.mem_cons] at hx ⊢
        right; exact hx))
      simp only at h1
      simp [Template.format, h1, h2, Str.joinWith]

theorem keys_sid {t : Template} {ps : List (Str × Re)} (h : SidShape t ps)
    (hnd : (ps.map (·.1)).Nodup) : Template.keys t = ps.map (·.1) := by
  induction h with
  | one k e => simp [Template.keys]
  | cons k e rest p ps _ ih =>
    simp only [List.map_cons, List.nodup_cons] at hnd
    have := ih (by simpa using hnd.2)
    simp only [Template.keys, this, List.map_cons, List.cons.injEq, true_and]
    rw [List.filter_eq_self]
    intro a ha
    have : a ≠ k := by intro h; subst h; exact hnd.1 (by simpa using ha)
    simpa using this

end SidL
