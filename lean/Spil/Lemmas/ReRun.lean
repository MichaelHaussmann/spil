/-
  Spil.Lemmas.ReRun — lemmas about the list-of-successes matcher `Re.run`: what `starSplits`
  contains, the context-free relation `Re.Matches`, ONE adequacy theorem (`mem_run_iff`), the
  structural facts about `run` that follow from it, `Re.matchZ` on `Re.mkSeq`, and which success
  `$` selects.
-/
import Spil.Model.Re
import Spil.Lemmas.Str

/-! ### `starSplits` -/

theorem nil_mem_starSplits (e : Env) (k : Cls) (s r : Str) :
    ([], r) ∈ starSplits e k s ↔ r = s := by
  cases s with
  | nil => simp [starSplits]
  | cons c cs => simp only [starSplits]; split <;> simp [eq_comm]

theorem cons_mem_starSplits (e : Env) (k : Cls) (x : Char) (m r : Str) (c : Char) (cs : Str) :
    (x :: m, r) ∈ starSplits e k (c :: cs) ↔
      x = c ∧ k.test e c = true ∧ (m, r) ∈ starSplits e k cs := by
  simp only [starSplits]; split
  · next ht =>
    simp only [List.mem_append, List.mem_map, Prod.exists, Prod.mk.injEq, List.cons.injEq,
      List.mem_singleton, reduceCtorEq, false_and, or_false, ht, true_and]
    constructor
    · rintro ⟨a, b, h, ⟨rfl, rfl⟩, rfl⟩; exact ⟨rfl, h⟩
    · rintro ⟨rfl, h⟩; exact ⟨m, r, h, ⟨rfl, rfl⟩, rfl⟩
  · next ht => simp [ht]

theorem mem_starSplits (e : Env) (k : Cls) (s : Str) (p : Str × Str) :
    p ∈ starSplits e k s ↔ p.1 ++ p.2 = s ∧ ∀ c ∈ p.1, k.test e c = true := by
  obtain ⟨m, r⟩ := p
  induction m generalizing s with
  | nil => simp [nil_mem_starSplits]
  | cons x m ih =>
    cases s with
    | nil => simp [starSplits]
    | cons c cs =>
      rw [cons_mem_starSplits, ih]
      simp only [List.cons_append, List.cons.injEq, List.forall_mem_cons]
      constructor
      · rintro ⟨rfl, ht, h1, h2⟩; exact ⟨⟨rfl, h1⟩, ht, h2⟩
      · rintro ⟨⟨rfl, h1⟩, ht, h2⟩; exact ⟨rfl, ht, h1, h2⟩

theorem mem_starSplits_notSlash (e : Env) (s : Str) (p : Str × Str) :
    p ∈ starSplits e .notSlash s ↔ p.1 ++ p.2 = s ∧ '/' ∉ p.1 := by
  rw [mem_starSplits]
  constructor
  · rintro ⟨h, hall⟩
    refine ⟨h, fun hm => ?_⟩
    have := hall _ hm
    simp [Cls.test] at this
  · rintro ⟨h, hn⟩
    refine ⟨h, fun c hc => ?_⟩
    simp only [Cls.test, bne_iff_ne, ne_eq]
    rintro rfl
    exact hn hc

/-! ### membership in the successes of a sequence / group / class -/

theorem mem_run_seq (e : Env) (a b : Re) (s : Str) (p : Succ) :
    p ∈ (Re.seq a b).run e s ↔
      ∃ m1 r1 c1 m2 c2, (m1, r1, c1) ∈ a.run e s ∧ (m2, p.2.1, c2) ∈ b.run e r1 ∧
        p.1 = m1 ++ m2 ∧ p.2.2 = c1 ++ c2 := by
  obtain ⟨m, r, c⟩ := p
  simp only [Re.run, List.mem_flatMap, List.mem_map, Prod.exists, Prod.mk.injEq]
  constructor
  · rintro ⟨m1, r1, c1, h1, m2, r2, c2, h2, rfl, rfl, rfl⟩
    exact ⟨m1, r1, c1, m2, c2, h1, h2, rfl, rfl⟩
  · rintro ⟨m1, r1, c1, m2, c2, h1, h2, rfl, rfl⟩
    exact ⟨m1, r1, c1, h1, m2, r, c2, h2, rfl, rfl, rfl⟩

theorem mem_run_grp (e : Env) (n : Str) (a : Re) (s : Str) (p : Succ) :
    p ∈ (Re.grp n a).run e s ↔ ∃ c, (p.1, p.2.1, c) ∈ a.run e s ∧ p.2.2 = c ++ [(n, p.1)] := by
  obtain ⟨m, r, c⟩ := p
  simp only [Re.run, List.mem_map, Prod.exists, Prod.mk.injEq]
  constructor
  · rintro ⟨m', r', c', h, rfl, rfl, rfl⟩; exact ⟨c', h, rfl⟩
  · rintro ⟨c', h, rfl⟩; exact ⟨m, r, c', h, rfl, rfl, rfl⟩

theorem mem_run_cls (e : Env) (k : Cls) (s : Str) (p : Succ) :
    p ∈ (Re.cls k).run e s ↔ ∃ c, k.test e c = true ∧ s = c :: p.2.1 ∧ p.1 = [c] ∧ p.2.2 = [] := by
  obtain ⟨m, r, cp⟩ := p
  cases s with
  | nil => simp [Re.run]
  | cons d ds =>
    simp only [Re.run]
    split
    · next ht =>
      simp only [List.mem_singleton, Prod.mk.injEq, List.cons.injEq]
      constructor
      · rintro ⟨rfl, rfl, rfl⟩; exact ⟨d, ht, ⟨rfl, rfl⟩, rfl, rfl⟩
      · rintro ⟨c, _, ⟨rfl, rfl⟩, rfl, rfl⟩; exact ⟨rfl, rfl, rfl⟩
    · next ht =>
      simp only [List.not_mem_nil, false_iff, not_exists, not_and, List.cons.injEq]
      rintro c hc ⟨rfl, _⟩
      exact absurd hc ht

/-! ### the context-free relation, and adequacy -/

/-- `r` matches exactly `m`, closing the named groups `c` (independent of what follows `m`) -/
inductive Re.Matches (e : Env) : Re → Str → Caps → Prop
  | eps : Matches e .eps [] []
  | cls {k c} : k.test e c = true → Matches e (.cls k) [c] []
  | star {k m} : (∀ c ∈ m, k.test e c = true) → Matches e (.star k) m []
  | seq {a b m1 c1 m2 c2} : Matches e a m1 c1 → Matches e b m2 c2 →
      Matches e (.seq a b) (m1 ++ m2) (c1 ++ c2)
  | altL {a b m c} : Matches e a m c → Matches e (.alt a b) m c
  | altR {a b m c} : Matches e b m c → Matches e (.alt a b) m c
  | grp {n r m c} : Matches e r m c → Matches e (.grp n r) m (c ++ [(n, m)])
  | cgrp {r m c} : Matches e r m c → Matches e (.cgrp r) m c

theorem mem_run_iff (e : Env) (r : Re) (s m rest : Str) (c : Caps) :
    (m, rest, c) ∈ r.run e s ↔ s = m ++ rest ∧ Re.Matches e r m c := by
  induction r generalizing s m rest c with
  | eps =>
    simp only [Re.run, List.mem_singleton, Prod.mk.injEq]
    constructor
    · rintro ⟨rfl, rfl, rfl⟩; exact ⟨rfl, .eps⟩
    · rintro ⟨rfl, h⟩; cases h; exact ⟨rfl, rfl, rfl⟩
  | cls k =>
    rw [mem_run_cls]
    constructor
    · rintro ⟨d, hd, rfl, hm, hc⟩; simp only at hm hc; subst hm hc; exact ⟨rfl, .cls hd⟩
    · rintro ⟨rfl, h⟩; cases h with | cls hd => exact ⟨_, hd, rfl, rfl, rfl⟩
  | star k =>
    simp only [Re.run, List.mem_map, Prod.exists, Prod.mk.injEq]
    constructor
    · rintro ⟨m', r', h, rfl, rfl, rfl⟩
      have := (mem_starSplits e k s (m', r')).mp h
      exact ⟨this.1.symm, .star this.2⟩
    · rintro ⟨hs, h⟩
      cases h with
      | star hm => exact ⟨m, rest, (mem_starSplits e k s (m, rest)).mpr ⟨hs.symm, hm⟩, rfl, rfl, rfl⟩
  | seq a b iha ihb =>
    rw [mem_run_seq]
    constructor
    · rintro ⟨m1, r1, c1, m2, c2, h1, h2, hm, hc⟩
      simp only at h2 hm hc; subst hm hc
      obtain ⟨rfl, ha⟩ := (iha ..).mp h1
      obtain ⟨rfl, hb⟩ := (ihb ..).mp h2
      exact ⟨by simp, .seq ha hb⟩
    · rintro ⟨rfl, h⟩
      cases h with
      | seq ha hb =>
        exact ⟨_, _, _, _, _, (iha ..).mpr ⟨List.append_assoc .., ha⟩, (ihb ..).mpr ⟨rfl, hb⟩, rfl, rfl⟩
  | alt a b iha ihb =>
    simp only [Re.run, List.mem_append, iha, ihb]
    constructor
    · rintro (⟨hs, h⟩ | ⟨hs, h⟩)
      · exact ⟨hs, .altL h⟩
      · exact ⟨hs, .altR h⟩
    · rintro ⟨hs, h⟩
      cases h with
      | altL h => exact .inl ⟨hs, h⟩
      | altR h => exact .inr ⟨hs, h⟩
  | grp n r ih =>
    rw [mem_run_grp]
    constructor
    · rintro ⟨c', h, hc⟩; simp only at h hc; subst hc
      obtain ⟨hs, hm⟩ := (ih ..).mp h
      exact ⟨hs, .grp hm⟩
    · rintro ⟨hs, h⟩
      cases h with
      | grp h => exact ⟨_, (ih ..).mpr ⟨hs, h⟩, rfl⟩
  | cgrp r ih =>
    simp only [Re.run, ih]
    exact ⟨fun ⟨hs, h⟩ => ⟨hs, .cgrp h⟩, fun ⟨hs, h⟩ => by cases h with | cgrp h => exact ⟨hs, h⟩⟩

/-! ### what `run` inherits from `Matches` -/

theorem run_app (e : Env) (r : Re) : ∀ s, ∀ p ∈ r.run e s, p.1 ++ p.2.1 = s :=
  fun _ _ hp => ((mem_run_iff ..).mp hp).1.symm

/-- = `run_app` -/
theorem Re.run_app (e : Env) (r : Re) : ∀ s, ∀ p ∈ r.run e s, p.1 ++ p.2.1 = s := _root_.run_app e r

theorem Cls.slashFree_test (e : Env) (k : Cls) (h : k.slashFree e = true) (c : Char)
    (ht : k.test e c = true) : c ≠ '/' := by
  rintro rfl
  cases k with
  | lit x => exact bne_iff_ne.1 h (eq_of_beq ht).symm
  | _ => simp_all [Cls.slashFree, Cls.test]

theorem Cls.nlFree_test (e : Env) (k : Cls) (h : k.nlFree e = true) (c : Char)
    (ht : k.test e c = true) : c ≠ '\n' := by
  rintro rfl
  cases k with
  | lit x => exact bne_iff_ne.1 h (eq_of_beq ht).symm
  | _ => simp_all [Cls.nlFree, Cls.test]

theorem Re.Matches.noGrp {e : Env} {r : Re} {m : Str} {c : Caps} (h : Re.Matches e r m c) :
    r.noGrp = true → c = [] := by
  induction h <;> simp_all [Re.noGrp]

theorem Re.Matches.slashFree {e : Env} {r : Re} {m : Str} {c : Caps} (h : Re.Matches e r m c) :
    r.slashFree e = true → '/' ∉ m := by
  induction h <;> simp_all [Re.slashFree]
  · next hk => intro hf; exact (Cls.slashFree_test e _ hf _ hk).symm
  · next hm => intro hf hx; exact Cls.slashFree_test e _ hf _ (hm _ hx) rfl

theorem Re.Matches.nlFree {e : Env} {r : Re} {m : Str} {c : Caps} (h : Re.Matches e r m c) :
    r.nlFree e = true → '\n' ∉ m := by
  induction h <;> simp_all [Re.nlFree]
  · next hk => intro hf; exact (Cls.nlFree_test e _ hf _ hk).symm
  · next hm => intro hf hx; exact Cls.nlFree_test e _ hf _ (hm _ hx) rfl

theorem run_slashFree (e : Env) (r : Re) (h : r.slashFree e = true) :
    ∀ s, ∀ p ∈ r.run e s, '/' ∉ p.1 :=
  fun _ _ hp => ((mem_run_iff ..).mp hp).2.slashFree h

/-! ### `matchZ` and its abbreviation `accepts`: matching the whole string -/

theorem matchZ_iff_matches (e : Env) (r : Re) (s : Str) :
    r.matchZ e s = true ↔ ∃ c, Re.Matches e r s c := by
  simp only [Re.matchZ, List.any_eq_true, beq_iff_eq, Prod.exists]
  constructor
  · rintro ⟨m, r', c, hmem, rfl⟩
    obtain ⟨hs, hm⟩ := (mem_run_iff ..).mp hmem
    rw [List.append_nil] at hs; subst hs
    exact ⟨c, hm⟩
  · rintro ⟨c, h⟩
    exact ⟨s, [], c, (mem_run_iff ..).mpr ⟨(List.append_nil s).symm, h⟩, rfl⟩

/-- `matchZ_iff_matches` with the head symbol that statements use -/
theorem accepts_iff_matches (e : Env) (r : Re) (s : Str) :
    r.accepts e s = true ↔ ∃ c, Re.Matches e r s c := matchZ_iff_matches e r s

theorem matches_grp_noGrp (e : Env) (n : Str) (r : Re) (hn : r.noGrp = true) (m : Str) (c : Caps) :
    Re.Matches e (.grp n r) m c ↔ r.accepts e m = true ∧ c = [(n, m)] := by
  rw [accepts_iff_matches]
  constructor
  · intro h
    cases h with
    | grp h => have := h.noGrp hn; subst this; exact ⟨⟨_, h⟩, rfl⟩
  · rintro ⟨⟨c', h⟩, rfl⟩
    have := h.noGrp hn; subst this
    exact .grp h

theorem accepts_slashFree (e : Env) (r : Re) (m : Str) (hf : r.slashFree e = true)
    (h : r.accepts e m = true) : '/' ∉ m := by
  obtain ⟨_, hm⟩ := (accepts_iff_matches e r m).mp h
  exact hm.slashFree hf

theorem accepts_nlFree (e : Env) (r : Re) (m : Str) (hf : r.nlFree e = true)
    (h : r.accepts e m = true) : '\n' ∉ m := by
  obtain ⟨_, hm⟩ := (accepts_iff_matches e r m).mp h
  exact hm.nlFree hf

/-! ### `matchZ`, constructor by constructor, and `Matches` / `matchZ` on `mkSeq` -/

theorem matchZ_eps (e : Env) (s : Str) : Re.eps.matchZ e s = true ↔ s = [] := by
  rw [matchZ_iff_matches]
  constructor
  · rintro ⟨_, h⟩; cases h; rfl
  · rintro rfl; exact ⟨_, .eps⟩

theorem matchZ_cls (e : Env) (k : Cls) (s : Str) :
    (Re.cls k).matchZ e s = true ↔ ∃ c, s = [c] ∧ k.test e c = true := by
  rw [matchZ_iff_matches]
  constructor
  · rintro ⟨_, h⟩; cases h with | cls ht => exact ⟨_, rfl, ht⟩
  · rintro ⟨c, rfl, ht⟩; exact ⟨_, .cls ht⟩

theorem matchZ_star (e : Env) (k : Cls) (s : Str) :
    (Re.star k).matchZ e s = true ↔ ∀ c ∈ s, k.test e c = true := by
  rw [matchZ_iff_matches]
  constructor
  · rintro ⟨_, h⟩; cases h with | star hall => exact hall
  · exact fun hall => ⟨_, .star hall⟩

theorem matchZ_seq (e : Env) (a b : Re) (s : Str) :
    (Re.seq a b).matchZ e s = true ↔
      ∃ x y, s = x ++ y ∧ a.matchZ e x = true ∧ b.matchZ e y = true := by
  simp only [matchZ_iff_matches]
  constructor
  · rintro ⟨_, h⟩; cases h with | seq h1 h2 => exact ⟨_, _, rfl, ⟨_, h1⟩, ⟨_, h2⟩⟩
  · rintro ⟨x, y, rfl, ⟨_, h1⟩, ⟨_, h2⟩⟩; exact ⟨_, .seq h1 h2⟩

theorem mkSeq_cons_of_ne (a : Re) (l : List Re) (h : l ≠ []) :
    Re.mkSeq (a :: l) = .seq a (Re.mkSeq l) := by
  cases l with
  | nil => exact absurd rfl h
  | cons b l => simp [Re.mkSeq]

/-- also for `l = []`, where `mkSeq [a] = a` is not a `seq` -/
theorem matches_mkSeq_cons (e : Env) (a : Re) (l : List Re) (m : Str) (c : Caps) :
    Re.Matches e (Re.mkSeq (a :: l)) m c ↔
      ∃ m1 c1 m2 c2, Re.Matches e a m1 c1 ∧ Re.Matches e (Re.mkSeq l) m2 c2 ∧
        m = m1 ++ m2 ∧ c = c1 ++ c2 := by
  cases l with
  | cons b l =>
    simp only [Re.mkSeq]
    constructor
    · intro h; cases h with | seq h1 h2 => exact ⟨_, _, _, _, h1, h2, rfl, rfl⟩
    · rintro ⟨_, _, _, _, h1, h2, rfl, rfl⟩; exact .seq h1 h2
  | nil =>
    simp only [Re.mkSeq]
    constructor
    · intro h; exact ⟨m, c, [], [], h, .eps, by simp, by simp⟩
    · rintro ⟨m1, c1, m2, c2, h1, h2, rfl, rfl⟩; cases h2; simpa using h1

theorem matchZ_mkSeq_cons (e : Env) (a : Re) (l : List Re) (s : Str) :
    (Re.mkSeq (a :: l)).matchZ e s = true ↔
      ∃ x y, s = x ++ y ∧ a.matchZ e x = true ∧ (Re.mkSeq l).matchZ e y = true := by
  simp only [matchZ_iff_matches, matches_mkSeq_cons]
  constructor
  · rintro ⟨_, x, c1, y, c2, h1, h2, rfl, rfl⟩; exact ⟨x, y, rfl, ⟨c1, h1⟩, ⟨c2, h2⟩⟩
  · rintro ⟨x, y, rfl, ⟨c1, h1⟩, ⟨c2, h2⟩⟩; exact ⟨_, x, c1, y, c2, h1, h2, rfl, rfl⟩

/-! ### `$`: which success `Re.search` selects -/

/-- `$`-safe: the first success satisfying `$` (if any) ends at the very end, for every input -/
def Re.dollarOk (e : Env) (r : Re) : Prop :=
  ∀ s x, (r.run e s).find? (fun p => atDollar p.2.1) = some x → x.2.1 = []

theorem dollarOk_seq (e : Env) (a b : Re) (hb : b.dollarOk e) : (Re.seq a b).dollarOk e := by
  intro s x hx
  simp only [Re.run, List.find?_flatMap] at hx
  obtain ⟨⟨m1, r1, c1⟩, _, h⟩ := List.exists_of_findSome?_eq_some hx
  simp only [List.find?_map, Option.map_eq_some_iff] at h
  obtain ⟨y, hy, rfl⟩ := h
  exact hb r1 y hy

theorem dollarOk_grp (e : Env) (n : Str) (a : Re) (ha : a.dollarOk e) : (Re.grp n a).dollarOk e := by
  intro s x hx
  simp only [Re.run, List.find?_map, Option.map_eq_some_iff] at hx
  obtain ⟨y, hy, rfl⟩ := hx
  exact ha s y hy

theorem dollarOk_mkSeq_snoc (e : Env) (r : Re) (hr : r.dollarOk e) :
    ∀ init : List Re, (Re.mkSeq (init ++ [r])).dollarOk e
  | [] => by simpa [Re.mkSeq] using hr
  | a :: init => by
    have : (a :: init) ++ [r] = a :: (init ++ [r]) := rfl
    rw [this, mkSeq_cons_of_ne _ _ (by simp)]
    exact dollarOk_seq e a _ (dollarOk_mkSeq_snoc e r hr init)

/-- `[^/]*` is `$`-safe although it can stop before a final newline: it can also swallow that
    newline, and `starSplits` lists the longer split first, so the split that leaves `[]` precedes
    the one that leaves `"\n"` -/
theorem starSplits_notSlash_dollar (e : Env) (s : Str) :
    ∀ y, (starSplits e Cls.notSlash s).find? (fun p => atDollar p.2) = some y → y.2 = [] := by
  induction s with
  | nil => intro y hy; simp [starSplits, atDollar] at hy; subst hy; rfl
  | cons c cs ih =>
    intro y hy
    simp only [starSplits] at hy
    split at hy
    · rw [List.find?_append, List.find?_map] at hy
      change (Option.map _ (List.find? (fun p : Str × Str => atDollar p.2) _)).or _ = _ at hy
      cases hL : (starSplits e Cls.notSlash cs).find? (fun p => atDollar p.2) with
      | some z => rw [hL] at hy; simp at hy; subst hy; exact ih z hL
      | none =>
        cases cs with
        | nil => simp [starSplits, atDollar] at hL
        | cons d ds => rw [hL] at hy; simp [atDollar] at hy
    · next hc =>
      have : c = '/' := by simpa [Cls.test] using hc
      subst this
      simp [atDollar] at hy

theorem dollarOk_star_notSlash (e : Env) : (Re.star Cls.notSlash).dollarOk e := by
  intro s x hx
  simp only [Re.run, List.find?_map, Option.map_eq_some_iff] at hx
  obtain ⟨y, hy, rfl⟩ := hx
  exact starSplits_notSlash_dollar e s y hy

theorem find_dollar_some (l : List Succ) (x : Succ)
    (h : l.find? (fun p => atDollar p.2.1) = some x) :
    x ∈ l ∧ (x.2.1 = [] ∨ x.2.1 = ['\n']) :=
  ⟨List.mem_of_find?_eq_some h, by simpa [atDollar] using List.find?_some h⟩

theorem find_dollar_ne_none (l : List Succ) (m : Str) (c : Caps) (h : (m, [], c) ∈ l) :
    l.find? (fun p => atDollar p.2.1) ≠ none := by
  intro hn
  simpa [atDollar] using List.find?_eq_none.mp hn _ h

theorem find_dollar_of_no_nl (e : Env) (r : Re) (w : Str) (hnl : w.getLast? ≠ some '\n') :
    ∀ x, (r.run e w).find? (fun p => atDollar p.2.1) = some x → x.2.1 = [] := by
  intro x hf
  obtain ⟨hmem, hd⟩ := find_dollar_some _ x hf
  have happ := run_app e r w x hmem
  rcases hd with hd | hd
  · exact hd
  · exfalso
    apply hnl
    rw [← happ, hd]
    simp
