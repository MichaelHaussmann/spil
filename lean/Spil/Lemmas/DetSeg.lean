/-
  Spil.Lemmas.DetSeg — parses of a string by a list of atoms; a `segDet` segment has at most one
  parse; a parse of a string with as many '/' as the atoms have '/' atoms splits at the '/' atoms;
  hence it is unique.
-/
import Spil.Lemmas.DetWords

namespace Det

open Spec

/-- `u` is a word the atom can read -/
def aword (e : Env) : Atom → Str → Prop
  | .cls k, u => ∃ c, u = [c] ∧ k.test e c = true
  | .closed _ alts, u => ∃ a ∈ alts, matchesSeq e a u
  | .free _, u => '/' ∉ u

/-- what the atom captures of the word `u` it read: a placeholder atom the word, a literal
    character nothing -/
def aval : Atom → Str → List Str
  | .cls _, _ => []
  | .closed _ _, u => [u]
  | .free _, u => [u]

/-- `w` is the concatenation of one word per atom; `vs` are the words of the placeholders -/
inductive Parse (e : Env) : List Atom → Str → List Str → Prop
  | nil : Parse e [] [] []
  | cons (a : Atom) (as : List Atom) (u w : Str) (vs : List Str) :
      aword e a u → Parse e as w vs → Parse e (a :: as) (u ++ w) (aval a u ++ vs)

theorem parse_nil_iff (e : Env) (w : Str) (vs : List Str) : Parse e [] w vs ↔ w = [] ∧ vs = [] := by
  constructor
  · intro h; cases h; exact ⟨rfl, rfl⟩
  · rintro ⟨rfl, rfl⟩; exact Parse.nil

theorem parse_cons_iff (e : Env) (a : Atom) (as : List Atom) (w : Str) (vs : List Str) :
    Parse e (a :: as) w vs ↔ ∃ u w' vs', w = u ++ w' ∧ vs = aval a u ++ vs' ∧ aword e a u ∧
      Parse e as w' vs' := by
  constructor
  · intro h
    cases h with
    | cons _ _ u w' vs' h1 h2 => exact ⟨u, w', vs', rfl, rfl, h1, h2⟩
  · rintro ⟨u, w', vs', rfl, rfl, h1, h2⟩
    exact Parse.cons a as u w' vs' h1 h2

theorem parse_append (e : Env) : ∀ (as bs : List Atom) (w : Str) (vs : List Str),
    Parse e (as ++ bs) w vs ↔ ∃ w1 w2 v1 v2, w = w1 ++ w2 ∧ vs = v1 ++ v2 ∧ Parse e as w1 v1 ∧
      Parse e bs w2 v2
  | [], bs, w, vs => by
    simp only [List.nil_append, parse_nil_iff]
    constructor
    · intro h; exact ⟨[], w, [], vs, rfl, rfl, ⟨rfl, rfl⟩, h⟩
    · rintro ⟨w1, w2, v1, v2, rfl, rfl, ⟨rfl, rfl⟩, h⟩; simpa using h
  | a :: as, bs, w, vs => by
    simp only [List.cons_append, parse_cons_iff, parse_append e as bs]
    constructor
    · rintro ⟨u, w', vs', rfl, rfl, h1, w1, w2, v1, v2, rfl, rfl, h2, h3⟩
      exact ⟨u ++ w1, w2, aval a u ++ v1, v2, by simp, by simp, ⟨u, w1, v1, rfl, rfl, h1, h2⟩, h3⟩
    · rintro ⟨w1, w2, v1, v2, rfl, rfl, ⟨u, w', vs', rfl, rfl, h1, h2⟩, h3⟩
      exact ⟨u, w' ++ w2, vs' ++ v2, by simp, by simp, h1, w', w2, vs', v2, rfl, rfl, h2, h3⟩

theorem parse_single_iff (e : Env) (a : Atom) (w : Str) (vs : List Str) :
    Parse e [a] w vs ↔ aword e a w ∧ vs = aval a w := by
  rw [parse_cons_iff]
  constructor
  · rintro ⟨u, w', vs', rfl, rfl, h1, h2⟩
    obtain ⟨rfl, rfl⟩ := (parse_nil_iff e _ _).mp h2
    simpa using h1
  · rintro ⟨h1, rfl⟩
    exact ⟨w, [], [], by simp, by simp, h1, Parse.nil⟩

/-! ### what the conventions say about the words of an atom -/

/-- the part of `atomOk` that speaks of the words of an atom: literal text is newline-free, the
    words of a vocabulary are non-empty, '/'-free and newline-free.  Unlike `atomOk` it does not ask
    the vocabulary to be non-empty, so it survives restricting a vocabulary (`Atom.conc`). -/
def wordsOk (e : Env) : Atom → Bool
  | .cls k => k.nlFree e
  | .closed _ alts =>
      alts.all (fun w => !w.isEmpty && w.all (fun k => k.slashFree e && k.nlFree e))
  | .free _ => true

theorem wordsOk_of_atomOk (e : Env) (a : Atom) (h : atomOk e a = true) : wordsOk e a = true := by
  cases a with
  | cls k => exact h
  | closed k alts =>
    simp only [atomOk, Bool.and_eq_true] at h
    exact h.2
  | free k => rfl

theorem aword_nonfree (e : Env) (a : Atom) (hf : a.isFree = false) (hok : wordsOk e a = true)
    (u : Str) (hu : aword e a u) : u ≠ [] ∧ '\n' ∉ u := by
  cases a with
  | free k => simp [Atom.isFree] at hf
  | cls k =>
    obtain ⟨c, rfl, hc⟩ := hu
    exact ⟨by simp, matchesSeq_not_mem e '\n' [k] [c]
      (by simpa using Cls.nlFree_test e k hok) (by simpa using hc)⟩
  | closed key alts =>
    obtain ⟨w, hw, hm⟩ := hu
    simp only [wordsOk, List.all_eq_true, Bool.and_eq_true, Bool.not_eq_true',
      List.isEmpty_eq_false_iff] at hok
    have hwne : w ≠ [] := (hok w hw).1
    refine ⟨?_, ?_⟩
    · intro h0; subst h0
      cases w with
      | nil => exact hwne rfl
      | cons _ _ => simp at hm
    · exact matchesSeq_not_mem e '\n' w u (fun k hk => Cls.nlFree_test e k ((hok w hw).2 k hk).2) hm

theorem aword_noSlash (e : Env) (a : Atom) (h : a.noSlash e = true) (u : Str) (hu : aword e a u) :
    '/' ∉ u := by
  cases a with
  | free k => exact hu
  | cls k =>
    obtain ⟨c, rfl, hc⟩ := hu
    exact matchesSeq_not_mem e '/' [k] [c] (by simpa using Cls.slashFree_test e k h)
      (by simpa using hc)
  | closed key alts =>
    obtain ⟨w, hw, hm⟩ := hu
    simp only [Atom.noSlash, List.all_eq_true] at h
    exact matchesSeq_not_mem e '/' w u (fun k hk => Cls.slashFree_test e k (h w hw k hk)) hm

theorem noSlash_of_wordsOk (e : Env) (a : Atom) (hok : wordsOk e a = true)
    (h : a.noSlash e = false) : ∃ k, a = Atom.cls k := by
  cases a with
  | cls k => exact ⟨k, rfl⟩
  | free k => simp [Atom.noSlash] at h
  | closed key alts =>
    exfalso
    simp only [wordsOk, List.all_eq_true, Bool.and_eq_true] at hok
    have : Atom.noSlash e (Atom.closed key alts) = true := by
      simp only [Atom.noSlash, List.all_eq_true]
      intro w hw k hk
      exact ((hok w hw).2 k hk).1
    rw [this] at h
    cases h

/-! ### unique words -/

theorem aword_left_unique (e : Env) (a : Atom) (h : leftOk e a = true) (u u' x x' : Str)
    (hu : aword e a u) (hu' : aword e a u') (heq : u ++ x = u' ++ x') : u = u' := by
  cases a with
  | cls k =>
    obtain ⟨c, rfl, _⟩ := hu
    obtain ⟨c', rfl, _⟩ := hu'
    simp at heq
    simp [heq.1]
  | closed key alts =>
    obtain ⟨a, ha, hm⟩ := hu
    obtain ⟨b, hb, hm'⟩ := hu'
    exact prefixFree_unique e alts h a b ha hb u u' x x' hm hm' heq
  | free key => simp [leftOk] at h

theorem aword_right_unique (e : Env) (a : Atom) (h : rightOk e a = true) (u u' x x' : Str)
    (hu : aword e a u) (hu' : aword e a u') (heq : x ++ u = x' ++ u') : u = u' := by
  cases a with
  | cls k =>
    obtain ⟨c, rfl, _⟩ := hu
    obtain ⟨c', rfl, _⟩ := hu'
    exact List.append_inj_right' heq rfl
  | closed key alts =>
    obtain ⟨a, ha, hm⟩ := hu
    obtain ⟨b, hb, hm'⟩ := hu'
    exact suffixFree_unique e alts h a b ha hb u u' x x' hm hm' heq
  | free key => simp [rightOk] at h

/-- right-ok atoms at the end are peeled identically in any two parses of the same string -/
theorem peelRight (e : Env) : ∀ (R rest : List Atom), R.all (rightOk e) = true →
    ∀ (w : Str) (vs vs' : List Str), Parse e (rest ++ R) w vs → Parse e (rest ++ R) w vs' →
    ∃ w' v0 v1 v1', vs = v1 ++ v0 ∧ vs' = v1' ++ v0 ∧ Parse e rest w' v1 ∧ Parse e rest w' v1'
  | [], rest, _, w, vs, vs', h, h' => by
    simp only [List.append_nil] at h h'
    exact ⟨w, [], vs, vs', by simp, by simp, h, h'⟩
  | a :: R, rest, hR, w, vs, vs', h, h' => by
    simp only [List.all_cons, Bool.and_eq_true] at hR
    have e1 : rest ++ a :: R = (rest ++ [a]) ++ R := by simp
    rw [e1] at h h'
    obtain ⟨w', v0, v1, v1', rfl, rfl, p1, p1'⟩ := peelRight e R (rest ++ [a]) hR.2 w _ _ h h'
    obtain ⟨x, u, y, z, hw, rfl, q1, q2⟩ := (parse_append e rest [a] w' v1).mp p1
    obtain ⟨x', u', y', z', hw', rfl, q1', q2'⟩ := (parse_append e rest [a] w' v1').mp p1'
    obtain ⟨a1, rfl⟩ := (parse_single_iff e a u z).mp q2
    obtain ⟨a1', rfl⟩ := (parse_single_iff e a u' z').mp q2'
    have huu : u = u' := aword_right_unique e a hR.1 u u' x x' a1 a1' (by rw [← hw, ← hw'])
    subst huu
    have hxx : x = x' := List.append_cancel_right (by rw [← hw, ← hw'])
    subst hxx
    exact ⟨x, aval a u ++ v0, y, y', by simp, by simp, q1, q1'⟩

theorem seg_unique (e : Env) : ∀ (seg : List Atom), segDet e seg = true →
    ∀ (w : Str) (vs vs' : List Str), Parse e seg w vs → Parse e seg w vs' → vs = vs'
  | [], _, w, vs, vs', h, h' => by
    rw [parse_nil_iff] at h h'
    rw [h.2, h'.2]
  | a :: as, hd, w, vs, vs', h, h' => by
    simp only [segDet, Bool.or_eq_true, Bool.and_eq_true] at hd
    rcases hd with (⟨hl, hrest⟩ | ⟨hf, hr⟩) | hr
    · obtain ⟨u, w1, v1, rfl, rfl, a1, p1⟩ := (parse_cons_iff e a as w vs).mp h
      obtain ⟨u', w1', v1', hw, rfl, a1', p1'⟩ := (parse_cons_iff e a as _ vs').mp h'
      have huu : u = u' := aword_left_unique e a hl u u' w1 w1' a1 a1' hw
      subst huu
      have hww : w1 = w1' := List.append_cancel_left hw
      subst hww
      rw [seg_unique e as hrest w1 v1 v1' p1 p1']
    · obtain ⟨w', v0, v1, v1', rfl, rfl, p1, p1'⟩ := peelRight e as [a] hr w vs vs' h h'
      cases a with
      | free key =>
        rw [parse_single_iff] at p1 p1'
        rw [p1.2, p1'.2]
      | cls k => simp [Atom.isFree] at hf
      | closed key alts => simp [Atom.isFree] at hf
    · obtain ⟨w', v0, v1, v1', rfl, rfl, p1, p1'⟩ := peelRight e (a :: as) [] hr w vs vs' h h'
      rw [parse_nil_iff] at p1 p1'
      rw [p1.2, p1'.2]

/-! ### counting '/' -/

theorem aword_slash (e : Env) (a : Atom) (h : a.isSlash = true) (u : Str) (hu : aword e a u) :
    u = ['/'] := by
  cases a with
  | cls k =>
    cases k with
    | lit c =>
      simp only [Atom.isSlash, beq_iff_eq] at h
      subst h
      obtain ⟨c, rfl, hc⟩ := hu
      simp only [Cls.test, beq_iff_eq] at hc
      rw [hc]
    | _ => simp [Atom.isSlash] at h
  | _ => simp [Atom.isSlash] at h

theorem aval_slash (a : Atom) (h : a.isSlash = true) (u : Str) : aval a u = [] := by
  cases a with
  | cls k => rfl
  | _ => simp [Atom.isSlash] at h

theorem parse_slash_lower (e : Env) : ∀ (as : List Atom) (w : Str) (vs : List Str), Parse e as w vs →
    as.countP Atom.isSlash ≤ List.count '/' w
  | [], w, vs, _ => by simp
  | a :: as, w, vs, h => by
    obtain ⟨u, w1, v1, rfl, rfl, a1, p1⟩ := (parse_cons_iff e a as w vs).mp h
    have ih := parse_slash_lower e as w1 v1 p1
    rw [List.countP_cons, List.count_append]
    by_cases hs : a.isSlash = true
    · rw [aword_slash e a hs u a1]
      simp [hs]; omega
    · simp [hs]; omega

/-- the '/' count of a parse passes to the tail, and a word of a non-'/' atom has none -/
theorem count_slash_cons (e : Env) (a : Atom) (as : List Atom) (u w : Str) (vs : List Str)
    (hu : aword e a u) (p : Parse e as w vs)
    (hc : List.count '/' (u ++ w) = (a :: as).countP Atom.isSlash) :
    List.count '/' w = as.countP Atom.isSlash ∧ (a.isSlash = false → '/' ∉ u) := by
  have hle := parse_slash_lower e as w vs p
  rw [List.count_append, List.countP_cons] at hc
  by_cases hs : a.isSlash = true
  · rw [aword_slash e a hs u hu] at hc
    simp only [hs, if_true, List.count_cons_self, List.count_nil] at hc
    exact ⟨by omega, fun h => by rw [hs] at h; cases h⟩
  · simp only [hs, Bool.false_eq_true, if_false, Nat.add_zero] at hc
    exact ⟨by omega, fun _ => List.count_eq_zero.1 (by omega)⟩

theorem parse_slash_upper (e : Env) : ∀ (as : List Atom) (w : Str) (vs : List Str),
    as.all (wordsOk e) = true → Parse e as w vs →
    List.count '/' w ≤ as.countP (fun a => !a.noSlash e)
  | [], w, vs, _, h => by
    obtain ⟨rfl, _⟩ := (parse_nil_iff e w vs).mp h
    simp
  | a :: as, w, vs, hok, h => by
    obtain ⟨u, w1, v1, rfl, rfl, a1, p1⟩ := (parse_cons_iff e a as w vs).mp h
    simp only [List.all_cons, Bool.and_eq_true] at hok
    have ih := parse_slash_upper e as w1 v1 hok.2 p1
    rw [List.countP_cons, List.count_append]
    cases hs : a.noSlash e with
    | true =>
      have := List.count_eq_zero.mpr (aword_noSlash e a hs u a1)
      simp only [Bool.not_true, Bool.false_eq_true, if_false]
      omega
    | false =>
      obtain ⟨k, rfl⟩ := noSlash_of_wordsOk e a hok.1 hs
      obtain ⟨c, rfl, _⟩ := a1
      have : List.count '/' [c] ≤ 1 := by by_cases h : c = '/' <;> simp [h]
      simp only [Bool.not_false, if_true]
      omega

theorem parse_noSlash (e : Env) : ∀ (as : List Atom) (w : Str) (vs : List Str),
    as.all (Atom.noSlash e) = true → Parse e as w vs → '/' ∉ w
  | [], w, vs, _, h => by
    obtain ⟨rfl, _⟩ := (parse_nil_iff e w vs).mp h
    simp
  | a :: as, w, vs, hok, h => by
    obtain ⟨u, w1, v1, rfl, rfl, a1, p1⟩ := (parse_cons_iff e a as w vs).mp h
    simp only [List.all_cons, Bool.and_eq_true] at hok
    have := parse_noSlash e as w1 v1 hok.2 p1
    have := aword_noSlash e a hok.1 u a1
    simp_all

/-- a parse that begins with a non-free atom reads a non-empty string that does not begin with a
    newline (so neither the end of the string nor the final newline `$` tolerates) -/
theorem parse_head_nonfree (e : Env) (a : Atom) (as : List Atom) (hf : a.isFree = false)
    (hok : wordsOk e a = true) (w : Str) (vs : List Str) (p : Parse e (a :: as) w vs) :
    ∃ c cs, w = c :: cs ∧ c ≠ '\n' := by
  obtain ⟨u, w1, v1, rfl, _, a1, _⟩ := (parse_cons_iff e a as w vs).mp p
  obtain ⟨hne, hnl⟩ := aword_nonfree e a hf hok u a1
  match u, hne with
  | c :: cs, _ => exact ⟨c, cs ++ w1, rfl, fun hc => hnl (hc ▸ List.mem_cons_self ..)⟩

/-- a parse split at the '/' atoms: first segment `seg`, remaining segments `ss` -/
def SegParse (e : Env) : List Atom → List (List Atom) → Str → List Str → Prop
  | seg, [], w, vs => Parse e seg w vs ∧ '/' ∉ w
  | seg, s' :: ss, w, vs => ∃ w1 w2 v1 v2, w = w1 ++ '/' :: w2 ∧ vs = v1 ++ v2 ∧
      Parse e seg w1 v1 ∧ '/' ∉ w1 ∧ SegParse e s' ss w2 v2

theorem segParse_cons (e : Env) (a : Atom) (u : Str) (ha : aword e a u) (hu : '/' ∉ u) :
    ∀ (seg : List Atom) (ss : List (List Atom)) (w : Str) (vs : List Str),
    SegParse e seg ss w vs → SegParse e (a :: seg) ss (u ++ w) (aval a u ++ vs)
  | seg, [], w, vs, h => by
    simp only [SegParse] at h ⊢
    exact ⟨Parse.cons a seg u w vs ha h.1, by simp [hu, h.2]⟩
  | seg, s' :: ss, w, vs, h => by
    simp only [SegParse] at h ⊢
    obtain ⟨w1, w2, v1, v2, rfl, rfl, p1, hw1, p2⟩ := h
    exact ⟨u ++ w1, w2, aval a u ++ v1, v2, by simp, by simp, Parse.cons a seg u w1 v1 ha p1,
      by simp [hu, hw1], p2⟩

theorem segParse_of_parse (e : Env) : ∀ (fl : List Atom) (w : Str) (vs : List Str),
    Parse e fl w vs → List.count '/' w = fl.countP Atom.isSlash →
    SegParse e (splitSegs fl).1 (splitSegs fl).2 w vs
  | [], w, vs, h, _ => by
    rw [parse_nil_iff] at h
    obtain ⟨rfl, rfl⟩ := h
    simp only [splitSegs, SegParse]
    exact ⟨Parse.nil, by simp⟩
  | a :: as, w, vs, h, hc => by
    obtain ⟨u, w1, v1, rfl, rfl, a1, p1⟩ := (parse_cons_iff e a as w vs).mp h
    obtain ⟨hc1, hu0⟩ := count_slash_cons e a as u w1 v1 a1 p1 hc
    have ih := segParse_of_parse e as w1 v1 p1 hc1
    by_cases hs : a.isSlash = true
    · have hu := aword_slash e a hs u a1
      subst hu
      simp only [splitSegs, hs, if_true, SegParse]
      exact ⟨[], w1, [], v1, by simp, by simp [aval_slash a hs], Parse.nil, by simp, ih⟩
    · simp only [splitSegs, hs]
      exact segParse_cons e a u a1 (hu0 (by simpa using hs)) _ _ _ _ ih

theorem segParse_unique (e : Env) : ∀ (ss : List (List Atom)) (seg : List Atom),
    segDet e seg = true → ss.all (segDet e) = true →
    ∀ (w : Str) (vs vs' : List Str), SegParse e seg ss w vs → SegParse e seg ss w vs' → vs = vs'
  | [], seg, hd, _, w, vs, vs', h, h' => by
    simp only [SegParse] at h h'
    exact seg_unique e seg hd w vs vs' h.1 h'.1
  | s' :: ss, seg, hd, hds, w, vs, vs', h, h' => by
    simp only [SegParse] at h h'
    simp only [List.all_cons, Bool.and_eq_true] at hds
    obtain ⟨w1, w2, v1, v2, rfl, rfl, p1, hw1, p2⟩ := h
    obtain ⟨w1', w2', v1', v2', hw, rfl, p1', hw1', p2'⟩ := h'
    obtain ⟨rfl, rfl⟩ := Str.first_sep_unique '/' w1 w1' w2 w2' hw1 hw1' hw
    rw [seg_unique e seg hd w1 v1 v1' p1 p1', segParse_unique e ss s' hds.1 hds.2 w2 v2 v2' p2 p2']

theorem parse_unique (e : Env) (fl : List Atom) (hd : (segsOf fl).all (segDet e) = true)
    (w : Str) (hc : List.count '/' w = fl.countP Atom.isSlash) (vs vs' : List Str)
    (h : Parse e fl w vs) (h' : Parse e fl w vs') : vs = vs' := by
  simp only [segsOf, List.all_cons, Bool.and_eq_true] at hd
  exact segParse_unique e _ _ hd.1 hd.2 w vs vs' (segParse_of_parse e fl w vs h hc)
    (segParse_of_parse e fl w vs' h' hc)

end Det
