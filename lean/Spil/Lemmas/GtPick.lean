/-
  Spil.Lemmas.GtPick — the reading of `sortedPick` as "the last one of each group" (`PicksLast`),
  `indexOfGt`, `gtStar`, used by the '>' theorems (C09b).
-/
import Spil.Spec.Gt
import Spil.Lemmas.Find
import Spil.Lemmas.MapE

namespace Spec

theorem PicksLast.length_le_one {idx : Nat} {P : Str → Prop} {r : List Str} (h : PicksLast idx P r)
    (hg : ∀ a b, P a → P b → groupKey idx a = groupKey idx b) : r.length ≤ 1 := by
  match r, h with
  | [], _ => simp
  | [_], _ => simp
  | a :: b :: t, h =>
    exfalso
    have ha := ((h.mem a).1 (by simp)).1
    have hb := ((h.mem b).1 (by simp)).1
    have hab := h.one_per_group a (by simp) b (by simp) (hg a b ha hb)
    have hn := h.nodup
    rw [hab] at hn
    simp at hn

theorem PicksLast.eq_nil_iff {idx : Nat} {P : Str → Prop} {r : List Str} (h : PicksLast idx P r) :
    r = [] ↔ ¬ ∃ y, P y := by
  constructor
  · rintro rfl ⟨y, hy⟩
    obtain ⟨_, hm, _⟩ := h.every_group y hy
    cases hm
  · intro hn
    cases r with
    | nil => rfl
    | cons a t => exact absurd ⟨a, ((h.mem a).1 List.mem_cons_self).1⟩ hn

end Spec

namespace GtL

open Spec Find

/-! ### `sortedPick` picks the last one of each group -/

theorem picksLast_sortedPick (idx : Nat) (P : Str → Prop) (founds : List Str)
    (h : ∀ x, x ∈ founds ↔ P x) : PicksLast idx P (sortedPick idx founds) where
  mem y := by simp only [mem_sortedPick, h, IsLastOf]
  nodup := sortedPick_nodup idx founds
  one_per_group := sortedPick_key_inj idx founds
  every_group e he := sortedPick_repr idx founds e ((h e).2 he)

theorem PicksLast.ext {idx : Nat} {P : Str → Prop} {r₁ r₂ : List Str} (h₁ : PicksLast idx P r₁)
    (h₂ : PicksLast idx P r₂) : ∀ y, y ∈ r₁ ↔ y ∈ r₂ := fun y => by rw [h₁.mem, h₂.mem]

/-! ### `indexOfGt` -/

theorem indexOfGt_eq_findIdx? (segs : List Str) : indexOfGt segs = segs.findIdx? (· == ['>']) := by
  induction segs with
  | nil => rfl
  | cons s rest ih => rw [indexOfGt, List.findIdx?_cons, ih]

theorem hasChar_of_gtAt (idx : Nat) (s : Str) (h : GtAt idx s) : Str.hasChar '>' s = true := by
  rw [GtAt, indexOfGt_eq_findIdx?] at h
  obtain ⟨hi, h1, _⟩ := List.findIdx?_eq_some_iff_getElem.1 h
  exact (Str.hasChar_iff _ _).2 (Str.mem_of_mem_splitOn '/' s ['>'] '>'
    (beq_iff_eq.1 h1 ▸ List.getElem_mem hi) (by simp))

/-! ### `gtStar` -/

theorem gtStar_append (a b : Str) : gtStar (a ++ b) = gtStar a ++ gtStar b := by
  simp [gtStar]

theorem gtStar_cons (c : Char) (a : Str) :
    gtStar (c :: a) = (if c == '>' then '*' else c) :: gtStar a := rfl

theorem mem_gtStar (x : Char) (hx1 : x ≠ '>') (hx2 : x ≠ '*') (s : Str) : x ∈ gtStar s ↔ x ∈ s := by
  induction s with
  | nil => simp [gtStar]
  | cons c cs ih =>
    rw [gtStar_cons, List.mem_cons, List.mem_cons, ih]
    by_cases hc : c = '>'
    · subst hc; simp [hx1, hx2]
    · have : (c == '>') = false := by simpa using hc
      simp [this]

theorem bracket_gtStar (s : Str) : '[' ∉ gtStar s ↔ '[' ∉ s := by
  rw [mem_gtStar '[' (by decide) (by decide)]

-- an end result of its own under this name; the files below call `Ctx.mapE_congr`
theorem mapE_congr {α β} (f g : α → Except Err β) (l : List α) (h : ∀ x ∈ l, f x = g x) :
    Ctx.mapE f l = Ctx.mapE g l := Ctx.mapE_congr f g l h

end GtL
