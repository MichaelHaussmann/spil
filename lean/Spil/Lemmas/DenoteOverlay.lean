/-
  Spil.Lemmas.DenoteOverlay — helper lemmas for `C07.c07_narrow`: the hypotheses of C04's
  all-or-nothing theorem hold for a good narrowing query applied to a canonically typed Sid.
-/
import Spil.Spec.Denote
import Spil.Lemmas.DenoteNarrow
import Spil.Props.C04

namespace DenL

open Spec Ctx

/-- canonically typed, line-feed-free and query-free: what narrowing starts from, and what it
    returns when the query is applied -/
structure Clean (c : Ctx) (x : Sid) : Prop where
  typed : wellTyped c.env c.cfg.sid.templates x
  noNl : '\n' ∉ x.string
  noQuery : '?' ∉ x.string

/-! ### segment values -/

/-- a value that can stand as a segment of a rendered string -/
def SegVal (v : Str) : Prop := '/' ∉ v ∧ '\n' ∉ v ∧ '?' ∉ v

theorem narrowValOk_unpack (v : Str) (h : narrowValOk v = true) :
    v.filter (· != '~') ≠ [] ∧ SegVal v := by
  simp only [narrowValOk, Bool.and_eq_true, Bool.not_eq_true', List.isEmpty_eq_false_iff,
    Str.hasChar_eq_false_iff] at h
  exact ⟨h.1.1.1, h.1.1.2, h.1.2, h.2⟩

theorem segVal_filter (v : Str) (q : Char → Bool) (h : SegVal v) : SegVal (v.filter q) :=
  ⟨fun hm => h.1 (List.mem_filter.1 hm).1, fun hm => h.2.1 (List.mem_filter.1 hm).1,
    fun hm => h.2.2 (List.mem_filter.1 hm).1⟩

theorem segVal_of_seg (s seg : Str) (hseg : seg ∈ Str.splitOn '/' s) (hnl : '\n' ∉ s) (hq : '?' ∉ s) :
    SegVal seg :=
  ⟨Str.splitOn_not_mem '/' s seg hseg,
   fun h => hnl ((Str.splitOn_infix '/' s seg hseg).subset h),
   fun h => hq ((Str.splitOn_infix '/' s seg hseg).subset h)⟩

/-! ### a good narrowing query -/

theorem narrowQueryOk_unpack (q : Str) (h : narrowQueryOk q = true) :
    ∃ nd, Query.toDict q = .ok nd ∧ ∀ p ∈ nd, narrowValOk p.2 = true := by
  unfold narrowQueryOk at h
  split at h
  · next nd hnd => exact ⟨nd, hnd, by simpa [List.all_eq_true] using h⟩
  · cases h

/-! ### the overlay of a good query on a canonically typed Sid (for `C04.c04_all_or_nothing`) -/

/-- the values of the overlay: each can stand as a segment, and is non-empty unless it is an
    original field of `x` (only a ONE-key template needs its value non-empty, and there an original
    field is the whole, non-empty string of `x`) -/
theorem overlay_vals (c : Ctx) (hwf : sidTableOk c.env c.cfg.sid.templates = true) (x : Sid)
    (hx : wellTyped c.env c.cfg.sid.templates x) (hnl : '\n' ∉ x.string) (hq : '?' ∉ x.string)
    (nd : Dict) (hnd : (nd.map (·.1)).Nodup) (hok : ∀ p ∈ nd, narrowValOk p.2 = true) :
    ((Query.updateGo x.fields nd).map (·.1)).Nodup ∧
    ∀ k v, (k, v) ∈ Query.updateGo x.fields nd → SegVal v ∧ (v ≠ [] ∨ (k, v) ∈ x.fields) := by
  obtain ⟨t, ht, _⟩ := HierL.wellTyped_typedBy hx
  have hond := UpdL.updateGo_nodup nd x.fields (ht.keys_nodup hwf)
  refine ⟨hond, ?_⟩
  intro k v hkv
  have hget := Dict.get_of_mem _ hond k v hkv
  rw [UpdL.updateGo_get nd hnd] at hget
  have hdata : x.fields.get k = some v → SegVal v ∧ (v ≠ [] ∨ (k, v) ∈ x.fields) := by
    intro h
    have hm := Lst.lookup_mem _ _ _ h
    have hseg : v ∈ Str.splitOn '/' x.string := by
      rw [← ht.vals]; exact List.mem_map.2 ⟨_, hm, rfl⟩
    exact ⟨segVal_of_seg x.string v hseg hnl hq, Or.inr hm⟩
  cases hn : nd.get k with
  | none => rw [hn] at hget; exact hdata hget
  | some v0 =>
    rw [hn] at hget
    simp only at hget
    obtain ⟨hne0, hv0⟩ := narrowValOk_unpack v0 (hok _ (Lst.lookup_mem _ _ _ hn))
    split at hget
    · split at hget
      · simp only [Option.some.injEq] at hget
        subst hget
        exact ⟨segVal_filter v0 _ hv0, Or.inl hne0⟩
      · cases hget
    · simp only [Option.some.injEq] at hget
      subst hget
      refine ⟨hv0, Or.inl ?_⟩
      intro h0
      apply hne0
      rw [h0]; rfl

/-- an overlay `ov` that keeps the keys of `x` and whose values are as `overlay_vals` says renders,
    through every template with its keys, to a non-empty string without final line feed -/
theorem overlay_renderable (c : Ctx) (hwf : sidTableOk c.env c.cfg.sid.templates = true) (x : Sid)
    (hx : wellTyped c.env c.cfg.sid.templates x) (ov : Dict)
    (hkeys : ∀ k, x.fields.hasKey k = true → ov.hasKey k = true)
    (hvals : ∀ k v, (k, v) ∈ ov → SegVal v ∧ (v ≠ [] ∨ (k, v) ∈ x.fields))
    (t : Str × Template) (ht : t ∈ c.cfg.sid.templates) (hk : Dict.keysEq ov (keysOf t.2) = true) :
    renderable (Str.joinWith '/' ((keysOf t.2).map (fun k => (ov.get k).getD []))) := by
  obtain ⟨tx, htx, hsne⟩ := HierL.wellTyped_typedBy hx
  have hK : keysOf t.2 ≠ [] := by
    simpa [keysOf] using (SidL.tplOk_unpack c.env t.2 (SidL.tableOk_tplOk hwf ht)).ne_nil
  constructor
  · match hKs : keysOf t.2, hK with
    | [k], _ =>
      -- ONE key: its value is non-empty, or an original field of `x`, all of whose keys are `k`
      rw [hKs] at hk
      have hg := Dict.get_of_keysEq hk (List.mem_singleton.2 rfl)
      have hall : ∀ p ∈ x.fields, p.1 = k := fun p hp => by
        have h2 := hkeys p.1 ((Dict.hasKey_iff_mem _ _).2 (List.mem_map.2 ⟨p, hp, rfl⟩))
        simpa using ((Dict.keysEq_iff _ _).1 hk p.1).1 ((Dict.hasKey_iff_mem _ _).1 h2)
      simp only [List.map_cons, List.map_nil, Str.joinWith]
      rcases (hvals k _ (Lst.lookup_mem _ _ _ hg)).2 with h | h
      · exact h
      · rw [show (ov.get k).getD [] = x.string from htx.const_key hwf k hall _ h]
        exact hsne
    | k1 :: k2 :: rest, _ =>
      rw [List.map_cons, List.map_cons, Str.joinWith_cons_cons]
      exact List.append_ne_nil_of_right_ne_nil _ (List.cons_ne_nil _ _)
  · intro hlast
    obtain ⟨p, hp, hc⟩ := (Str.mem_joinWith '/' '\n' _ (by decide)).1 (List.mem_of_getLast? hlast)
    obtain ⟨k, _, rfl⟩ := List.mem_map.1 hp
    cases hg : ov.get k with
    | none => rw [hg] at hc; cases hc
    | some v => rw [hg] at hc; exact (hvals k v (Lst.lookup_mem _ _ _ hg)).1.2.1 hc

/-- a good query applied to a clean Sid: never fails; the result is the refusal or a clean Sid
    carrying the overlay -/
theorem applyQuery_good (c : Ctx) (hwf : sidHierOk c.env c.cfg.sid.templates = true) (x : Sid)
    (hx : Clean c x) (q : Str) (hqne : q ≠ []) (hok : narrowQueryOk q = true) :
    ∃ nd, Query.toDict q = .ok nd ∧ ∃ x', c.applyQuery x.string q x.type x.fields = .ok x' ∧
      (x' = ⟨x.string ++ '?' :: q, x.type, x.fields⟩ ∨
       (Clean c x' ∧ ∀ k, x'.fields.get k = (Query.updateGo x.fields nd).get k)) := by
  have htab := HierL.hier_table hwf
  obtain ⟨nd, hnd, hvok⟩ := narrowQueryOk_unpack q hok
  obtain ⟨hond, hvals⟩ :=
    overlay_vals c htab x hx.typed hx.noNl hx.noQuery nd (UpdL.toDict_nodup q nd hnd) hvok
  refine ⟨nd, hnd, ?_⟩
  obtain ⟨y, hy, hcase⟩ := C04.c04_all_or_nothing c x hwf hx.typed q hqne _
    (by simp [Query.update, hnd])
    (fun t ht hk => overlay_renderable c htab x hx.typed _
      (fun k hk' => UpdL.updateGo_hasKey nd x.fields k hk') hvals t ht hk)
    (fun p hp => (hvals p.1 p.2 hp).1.1)
  refine ⟨y, hy, hcase.imp_right fun ⟨hwy, hget, _⟩ => ?_⟩
  -- every segment of the new string is a value of the overlay
  obtain ⟨ty, hty, _⟩ := HierL.wellTyped_typedBy hwy
  have hseg : ∀ seg ∈ Str.splitOn '/' y.string, SegVal seg := by
    intro seg hs
    rw [← hty.vals] at hs
    obtain ⟨⟨k, _⟩, hk, rfl⟩ := List.mem_map.1 hs
    have h1 := Dict.get_of_mem _ (hty.keys_nodup htab) k _ hk
    rw [hget k] at h1
    exact (hvals k _ (Lst.lookup_mem _ _ _ h1)).1
  exact ⟨⟨hwy, Str.not_mem_of_segs _ _ (by decide) (fun seg hs => (hseg seg hs).2.1),
    Str.not_mem_of_segs _ _ (by decide) (fun seg hs => (hseg seg hs).2.2)⟩, hget⟩

/-! ### `get_with(query=…)` on a canonically typed Sid is `apply_query` -/

theorem sidOfString_typed_query (c : Ctx) (hwf : sidHierOk c.env c.cfg.sid.templates = true)
    (x : Sid) (hx : wellTyped c.env c.cfg.sid.templates x) (hq : '?' ∉ x.string) (q : Str)
    (hqne : q ≠ []) :
    c.sidOfString ((x.type ++ ':' :: x.string) ++ '?' :: q) =
      c.applyQuery x.string q x.type x.fields := by
  have htab := HierL.hier_table hwf
  obtain ⟨t, ht, hne⟩ := HierL.wellTyped_typedBy hx
  obtain ⟨htne, hcol, hqt⟩ := label_plain c hwf ⟨t, ht.mem⟩
  have hsplit : Str.split1 '?' ((x.type ++ ':' :: x.string) ++ '?' :: q) =
      (x.type ++ ':' :: x.string, some q) := by
    apply Str.split1_some
    simp only [List.mem_append, List.mem_cons, not_or]
    exact ⟨hqt, by decide, hq⟩
  have hqe : q.isEmpty = false := by simp [hqne]
  have hse : x.string.isEmpty = false := by simp [hne]
  have hte : x.type.isEmpty = false := by simp [htne]
  have hne' : ((x.type ++ ':' :: x.string) ++ '?' :: q).isEmpty = false := by simp
  unfold Ctx.sidOfString Ctx.sidToSid
  simp only [hne', hsplit, Bool.false_eq_true, if_false]
  rw [Str.split1_some ':' x.type x.string hcol]
  -- the uri prefix forces the type: `sid_to_dict` returns the fields of `x`, and the guard of
  -- `apply_query` (empty type with data) is off
  simp only [SidL.sidToDict_forced c htab x.type x.string htne, SidL.forcedDict, ht.lookup htab, hse,
    ht.acc, Bool.not_false, Bool.and_self, if_true, Option.map_some, Option.getD_some, hqe, hte,
    Bool.and_false, Bool.false_eq_true, if_false, ← ht.fields]

theorem getWithQuery_apply (c : Ctx) (hwf : sidHierOk c.env c.cfg.sid.templates = true) (x : Sid)
    (hx : wellTyped c.env c.cfg.sid.templates x) (hq : '?' ∉ x.string) (q : Str) (hqne : q ≠ []) :
    c.getWithQuery x q = c.applyQuery x.string q x.type x.fields := by
  obtain ⟨t, ht, _⟩ := HierL.wellTyped_typedBy hx
  have htab := HierL.hier_table hwf
  rw [← sidOfString_typed_query c hwf x hx hq q hqne]
  simp [Ctx.getWithQuery, Sid.uri, ht.type_ne_nil htab, ht.fields_ne_nil htab]

/-- `get_with(query=q2)` on a refusal `string?q1` re-applies both queries to the original Sid -/
theorem getWithQuery_refused (c : Ctx) (hwf : sidHierOk c.env c.cfg.sid.templates = true) (x : Sid)
    (hx : wellTyped c.env c.cfg.sid.templates x) (hq : '?' ∉ x.string) (q1 q2 : Str) :
    c.getWithQuery ⟨x.string ++ '?' :: q1, x.type, x.fields⟩ q2 =
      c.applyQuery x.string (q1 ++ '?' :: q2) x.type x.fields := by
  obtain ⟨t, ht, _⟩ := HierL.wellTyped_typedBy hx
  have htab := HierL.hier_table hwf
  rw [← sidOfString_typed_query c hwf x hx hq _ (by simp)]
  simp [Ctx.getWithQuery, Sid.uri, ht.type_ne_nil htab, ht.fields_ne_nil htab]

/-! ### conventional narrowing tables (`narrowOk`) -/

/-- what `narrowOk` says: every configured query is good, and so is every basetyped query followed
    by a typed one (what a refused first step makes of the second) -/
structure NarrowOk (sc : SidConf) : Prop where
  based : ∀ bt q, sc.basetypedNarrowing.lookup bt = some q → q ≠ [] → narrowQueryOk q = true
  typed : ∀ ty q, sc.typedNarrowing.lookup ty = some q → q ≠ [] → narrowQueryOk q = true
  both : ∀ bt q ty q', sc.basetypedNarrowing.lookup bt = some q → sc.typedNarrowing.lookup ty = some q' →
    q ≠ [] → q' ≠ [] → narrowQueryOk (q ++ '?' :: q') = true

theorem narrowOk_unpack (sc : SidConf) (h : narrowOk sc = true) : NarrowOk sc := by
  simp only [narrowOk, Bool.and_eq_true, List.all_eq_true, Bool.or_eq_true, List.isEmpty_iff] at h
  obtain ⟨⟨h1, h2⟩, h3⟩ := h
  refine ⟨?_, ?_, ?_⟩
  · intro bt q hl hne
    rcases h1 _ (Lst.lookup_mem _ _ _ hl) with h | h
    · exact absurd h hne
    · exact h
  · intro ty q hl hne
    rcases h2 _ (Lst.lookup_mem _ _ _ hl) with h | h
    · exact absurd h hne
    · exact h
  · intro bt q ty q' hl hl' hne hne'
    rcases h3 _ (Lst.lookup_mem _ _ _ hl) _ (Lst.lookup_mem _ _ _ hl') with (h | h) | h
    · exact absurd h hne
    · exact absurd h hne'
    · exact h

theorem narrowQ1_ok (c : Ctx) (hno : narrowOk c.cfg.sid = true) (ty : Str) (hne : narrowQ1 c ty ≠ []) :
    ∃ bt, c.cfg.sid.basetypedNarrowing.lookup bt = some (narrowQ1 c ty) ∧
      narrowQueryOk (narrowQ1 c ty) = true := by
  unfold narrowQ1 at hne ⊢
  cases hb : basetypeOf c ty with
  | none => rw [hb] at hne; exact absurd rfl hne
  | some bt =>
    rw [hb] at hne
    simp only at hne ⊢
    cases hl : c.cfg.sid.basetypedNarrowing.lookup bt with
    | none => rw [hl] at hne; exact absurd rfl hne
    | some q =>
      rw [hl] at hne
      simp only [Option.getD_some] at hne ⊢
      exact ⟨bt, hl, (narrowOk_unpack _ hno).based bt q hl hne⟩

theorem narrowQ2_ok (c : Ctx) (hno : narrowOk c.cfg.sid = true) (ty : Str) (hne : narrowQ2 c ty ≠ []) :
    c.cfg.sid.typedNarrowing.lookup ty = some (narrowQ2 c ty) ∧ narrowQueryOk (narrowQ2 c ty) = true := by
  unfold narrowQ2 at hne ⊢
  cases hl : c.cfg.sid.typedNarrowing.lookup ty with
  | none => rw [hl] at hne; exact absurd rfl hne
  | some q =>
    rw [hl] at hne
    simp only [Option.getD_some] at hne
    exact ⟨rfl, (narrowOk_unpack _ hno).typed ty q hl hne⟩

/-! ### the narrowing steps on a clean Sid -/

theorem narrowStep_of_ne_nil (c : Ctx) (x : Sid) {q : Str} (h : q ≠ []) :
    narrowStep c x q = c.getWithQuery x q := by
  simp [narrowStep, h]

/-- a step with a good query: the refusal, or a clean Sid -/
theorem narrowStep_good (c : Ctx) (hwf : sidHierOk c.env c.cfg.sid.templates = true) (x : Sid)
    (hx : Clean c x) (q : Str) (hqne : q ≠ []) (hok : narrowQueryOk q = true) :
    ∃ x', narrowStep c x q = .ok x' ∧
      (x' = ⟨x.string ++ '?' :: q, x.type, x.fields⟩ ∨ Clean c x') := by
  obtain ⟨_, _, x', hx', hc⟩ := applyQuery_good c hwf x hx q hqne hok
  rw [narrowStep_of_ne_nil c x hqne, getWithQuery_apply c hwf x hx.typed hx.noQuery q hqne]
  exact ⟨x', hx', hc.imp_right (·.1)⟩

/-- a step on the refusal `string?q1` of a clean Sid re-applies both queries to that Sid -/
theorem narrowStep_refused_good (c : Ctx) (hwf : sidHierOk c.env c.cfg.sid.templates = true)
    (x : Sid) (hx : Clean c x) (q1 q2 : Str) (hq2 : q2 ≠ [])
    (hok : narrowQueryOk (q1 ++ '?' :: q2) = true) :
    ∃ x', narrowStep c ⟨x.string ++ '?' :: q1, x.type, x.fields⟩ q2 = .ok x' ∧
      ('?' ∈ x'.string ∨ Clean c x') := by
  obtain ⟨_, _, x', hx', hc⟩ := applyQuery_good c hwf x hx _ (by simp) hok
  rw [narrowStep_of_ne_nil c _ hq2, getWithQuery_refused c hwf x hx.typed hx.noQuery]
  exact ⟨x', hx', hc.imp (fun h => by rw [h]; simp) (·.1)⟩

/-- the stronger `NarrowOut` that holds under `narrowOk`: what `type_narrow` returns shows an
    un-applied query (and is dropped by `unfold_search`), or is clean -/
def NarrowOutOk (c : Ctx) (x : Sid) : Prop := '?' ∈ x.string ∨ Clean c x

theorem typeNarrow_good (c : Ctx) (hwf : sidHierOk c.env c.cfg.sid.templates = true)
    (hno : narrowOk c.cfg.sid = true) (y : Sid) (hy : Clean c y) :
    ∃ x, c.typeNarrow y = .ok x ∧ NarrowOutOk c x := by
  have hty : y.type ≠ [] :=
    let ⟨_, ht, _⟩ := HierL.wellTyped_typedBy hy.typed
    ht.type_ne_nil (HierL.hier_table hwf)
  rw [typeNarrow_eq c y hy.noQuery hty]
  -- the typed step on a clean Sid
  have second : ∀ z, Clean c z → ∃ x, narrowStep c z (narrowQ2 c z.type) = .ok x ∧ NarrowOutOk c x := by
    intro z hz
    by_cases hq2 : narrowQ2 c z.type = []
    · rw [hq2]
      exact ⟨z, rfl, Or.inr hz⟩
    · obtain ⟨x, hx, hc⟩ := narrowStep_good c hwf z hz _ hq2 (narrowQ2_ok c hno z.type hq2).2
      exact ⟨x, hx, hc.imp_left fun h => by rw [h]; simp⟩
  by_cases hq1 : narrowQ1 c y.type = []
  · rw [hq1]
    exact second y hy
  · obtain ⟨bt, hl1, hok1⟩ := narrowQ1_ok c hno y.type hq1
    obtain ⟨x1, hx1, hc⟩ := narrowStep_good c hwf y hy _ hq1 hok1
    rw [hx1]
    change ∃ x, narrowStep c x1 (narrowQ2 c x1.type) = .ok x ∧ NarrowOutOk c x
    rcases hc with rfl | hclean
    · -- the basetyped step was refused
      dsimp only
      by_cases hq2 : narrowQ2 c y.type = []
      · rw [hq2]
        exact ⟨_, rfl, Or.inl (by simp)⟩
      · exact narrowStep_refused_good c hwf y hy _ _ hq2
          ((narrowOk_unpack _ hno).both bt _ y.type _ hl1 (narrowQ2_ok c hno y.type hq2).1 hq1 hq2)
    · exact second x1 hclean

end DenL
