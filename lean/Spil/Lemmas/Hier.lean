/-
  Spil.Lemmas.Hier — helper lemmas for the hierarchy and update theorems (C02, C03, C04): what
  `format_all` / `dict_to_type` / `dict_to_sid` compute on an arbitrary field dictionary (`valsOf`,
  `fits`, `sidVia`), the same for a reordering of a template's keys zipped with values (`DictOf`),
  what a typed Sid is (`TypedBy`), the loop of `get_as`, and the '/'-segment algebra of `parent` and `/`.
-/
import Spil.Props.C01

namespace Spec

/-- a string that `Resolver.format_*` accepts to render: non-empty (`resolve_one('')` is empty) and
    not ending in a newline (the reverse check of `format_*` resolves with `$`, which tolerates one
    final newline, so a template that accepts only `m` also "renders" `m ++ "\n"`) -/
def renderable (s : Str) : Prop := s ≠ [] ∧ s.getLast? ≠ some '\n'

end Spec

namespace HierL

open Spec SidL

/-! ### the conventions -/

theorem tableOk_label_ne_nil (e : Env) (ts : List (Str × Template)) (h : sidTableOk e ts = true) :
    ∀ p ∈ ts, p.1 ≠ [] := fun p hp => (tableOk_unpack e ts h p hp).1

/-- what `sidHierOk` gives -/
structure Hier (e : Env) (ts : List (Str × Template)) : Prop where
  table : sidTableOk e ts = true
  sameKeys : ∀ a ∈ ts, ∀ b ∈ ts, (∀ k, k ∈ keysOf a.2 ↔ k ∈ keysOf b.2) → keysOf a.2 = keysOf b.2
  prefixes : ∀ a ∈ ts, ∀ n, 0 < n → n < (phs a.2).length → ∃ b ∈ ts, phs b.2 = (phs a.2).take n
  plain : ∀ a ∈ ts, ':' ∉ a.1 ∧ '?' ∉ a.1

theorem hier_unpack (e : Env) (ts : List (Str × Template)) (h : sidHierOk e ts = true) :
    Hier e ts := by
  simp only [sidHierOk, Bool.and_eq_true] at h
  obtain ⟨⟨⟨h1, h2⟩, h3⟩, h4⟩ := h
  refine ⟨h1, fun a ha b hb hk => ?_, fun a ha n hn0 hn => ?_, fun a ha => ?_⟩
  · have hab : (keysOf a.2).all (fun k => (keysOf b.2).contains k) = true := by
      simpa using fun k hk' => (hk k).mp hk'
    have hba : (keysOf b.2).all (fun k => (keysOf a.2).contains k) = true := by
      simpa using fun k hk' => (hk k).mpr hk'
    simp only [sameKeysSameOrder, List.all_eq_true] at h2
    have := h2 a ha b hb
    rw [hab, hba] at this
    simpa using this
  · simp only [prefixClosed, List.all_eq_true, List.mem_range, Bool.or_eq_true, beq_iff_eq,
      List.any_eq_true] at h3
    rcases h3 a ha n hn with h | ⟨b, hb, h⟩
    · omega
    · exact ⟨b, hb, h⟩
  · simp only [labelsPlain, List.all_eq_true, Bool.and_eq_true, Bool.not_eq_true',
      Str.hasChar_eq_false_iff] at h4
    exact h4 a ha

theorem hier_table {e : Env} {ts : List (Str × Template)} (h : sidHierOk e ts = true) :
    sidTableOk e ts = true := (hier_unpack e ts h).table

/-! ### `format_*` / `dict_to_type` / `dict_to_sid` on an arbitrary field dictionary -/

/-- the values `format_*` fills the placeholders of `t` with -/
def valsOf (t : Template) (p : Dict) : List Str := (keysOf t).map (fun k => (p.get k).getD [])

/-- what `format_*` renders `p` to through `t` -/
def rendered (t : Template) (p : Dict) : Str := Str.joinWith '/' (valsOf t p)

/-- `format_*` returns a string for `p` through `t`: the key-set test and the reverse check pass -/
def fits (e : Env) (p : Dict) (t : Template) : Bool :=
  Dict.keysEq p (keysOf t) && accepts e t (rendered t p)

/-- the Sid `dict_to_sid` builds from `p` through the labelled template `a` -/
def sidVia (p : Dict) (a : Str × Template) : Sid :=
  ⟨rendered a.2 p, a.1, (keysOf a.2).zip (valsOf a.2 p)⟩

theorem fits_iff {e : Env} {p : Dict} {t : Template} :
    fits e p t = true ↔ Dict.keysEq p (keysOf t) = true ∧ accepts e t (rendered t p) = true := by
  simp only [fits, Bool.and_eq_true]

theorem valsOf_length (t : Template) (p : Dict) : (valsOf t p).length = (keysOf t).length := by
  simp [valsOf]

theorem fits_ne_nil {e : Env} {p : Dict} {t : Template} (hwt : sidTplOk e t = true)
    (hfit : fits e p t = true) : p ≠ [] := by
  intro hp
  have hK : keysOf t = [] := (Dict.eq_nil_iff_of_keysEq (fits_iff.mp hfit).1).1 hp
  exact (tplOk_unpack e t hwt).keysOf_ne_nil hK

theorem format_valsOf {t : Template} (hs : SidShape t (phs t)) {p : Dict}
    (hk : Dict.keysEq p (keysOf t) = true) : Template.format t p = some (rendered t p) := by
  refine format_sid hs p (valsOf t p) (by simp [valsOf_length, keysOf]) ?_
  intro q hq
  change q ∈ (keysOf t).zip ((keysOf t).map _) at hq
  rw [← List.map_prod_left_eq_zip] at hq
  obtain ⟨k, hkK, rfl⟩ := List.mem_map.mp hq
  exact Dict.get_of_keysEq hk hkK

theorem formatTpl_eq (e : Env) (R : Resolver) (hcd : R.checkDup = false) (label : Str) (t : Template)
    (hl : R.lookup label = some t) (hwf : sidTplOk e t = true) (p : Dict)
    (hr : Dict.keysEq p (keysOf t) = true → renderable (rendered t p)) :
    Resolver.formatTpl e R label t p = .ok (if fits e p t then some (rendered t p) else none) := by
  have ok := tplOk_unpack e t hwf
  unfold Resolver.formatTpl fits
  rw [keys_sid ok.shape ok.nodup]
  change (if (!Dict.keysEq p (keysOf t)) = true then _ else _) = _
  cases hk : Dict.keysEq p (keysOf t) with
  | false => rfl
  | true =>
    have hr := hr hk
    have hs' : (rendered t p).isEmpty = false := by simp [hr.1]
    simp only [format_valsOf ok.shape hk, Bool.not_true, Bool.false_eq_true, if_false, Bool.true_and,
      Resolver.resolveOne, hs', hl, hcd, resolveTpl_eq e t hwf _ hr.2]
    cases accepts e t (rendered t p) <;> rfl

theorem formatAllGo_eq (e : Env) (R : Resolver) (hcd : R.checkDup = false) (p : Dict)
    (ts : List (Str × Template))
    (H : ∀ a ∈ ts, sidTplOk e a.2 = true ∧ R.lookup a.1 = some a.2)
    (hr : ∀ a ∈ ts, Dict.keysEq p (keysOf a.2) = true → renderable (rendered a.2 p)) :
    Resolver.formatAllGo e R p ts =
      .ok ((ts.filter (fun a => fits e p a.2)).map (fun a => (a.1, rendered a.2 p))) := by
  induction ts with
  | nil => rfl
  | cons a ts ih =>
    obtain ⟨l, t⟩ := a
    obtain ⟨hwf, hl⟩ := H (l, t) (by simp)
    simp only [Resolver.formatAllGo, ih (fun a ha => H a (by simp [ha])) (fun a ha => hr a (by simp [ha])),
      formatTpl_eq e R hcd l t hl hwf p (hr (l, t) (by simp)), List.filter_cons]
    cases fits e p t <;> rfl

theorem sidVia_fields {p : Dict} (hnd : (p.map (·.1)).Nodup) {t : Template} (hK : (keysOf t).Nodup)
    (hk : Dict.keysEq p (keysOf t) = true) (l : Str) :
    (∀ k, (sidVia p (l, t)).fields.get k = p.get k) ∧ (sidVia p (l, t)).fields.length = p.length := by
  refine ⟨Dict.zip_vals_get p (keysOf t) ((Dict.keysEq_iff _ _).mp hk), ?_⟩
  have hperm := (List.perm_ext_iff_of_nodup hnd hK).mpr ((Dict.keysEq_iff _ _).mp hk)
  have := hperm.length_eq
  simp only [List.length_map] at this
  simp [sidVia, valsOf_length, this]

theorem splitOn_rendered {t : Template} {p : Dict} (hne : keysOf t ≠ [])
    (hslash : ∀ q ∈ p, '/' ∉ q.2) : Str.splitOn '/' (rendered t p) = valsOf t p := by
  refine Str.split_join _ _ (by simpa [valsOf] using hne) (fun v hv => ?_)
  obtain ⟨k, _, rfl⟩ := List.mem_map.mp hv
  cases hg : p.get k with
  | none => simp
  | some v => exact hslash _ (Lst.lookup_mem p k v hg)

theorem fieldsOf_rendered {t : Template} {p : Dict} (hne : keysOf t ≠ [])
    (hslash : ∀ q ∈ p, '/' ∉ q.2) (l : Str) :
    fieldsOf t (rendered t p) = (sidVia p (l, t)).fields := by
  unfold fieldsOf; rw [splitOn_rendered hne hslash]; rfl

section table

variable (c : Ctx) (hwf : sidTableOk c.env c.cfg.sid.templates = true) (p : Dict)
  (hr : ∀ a ∈ c.cfg.sid.templates, Dict.keysEq p (keysOf a.2) = true → renderable (rendered a.2 p))

include hwf hr

theorem dictToTypes_eq :
    c.dictToTypes p = .ok ((c.cfg.sid.templates.filter (fun a => fits c.env p a.2)).map (·.1)) := by
  unfold Ctx.dictToTypes Resolver.formatAll
  have h := formatAllGo_eq c.env c.sidR rfl p c.cfg.sid.templates
    (fun a ha => (tableOk_unpack _ _ hwf a ha).2) hr
  change Resolver.formatAllGo c.env c.sidR p c.sidR.templates = _ at h
  rw [h]
  by_cases hp : p.isEmpty = true
  · have : c.cfg.sid.templates.filter (fun a => fits c.env p a.2) = [] := by
      rw [List.filter_eq_nil_iff]
      exact fun a ha hfit =>
        fits_ne_nil (tableOk_tplOk hwf ha) hfit (List.isEmpty_iff.mp hp)
    simp [hp, this]
  · simp [hp, List.map_map, Function.comp_def]

section fitting

variable (a : Str × Template) (ha : a ∈ c.cfg.sid.templates) (hfit : fits c.env p a.2 = true)
include ha hfit

/-- the string `dict_to_sid` renders through a fitting template -/
theorem dictToSidStr_of_fits : c.dictToSidStr p a.1 = .ok (rendered a.2 p) := by
  obtain ⟨hlne, hwt, hl⟩ := tableOk_unpack _ _ hwf a ha
  have hl : c.sidR.lookup a.1 = some a.2 := hl
  have hfmt := formatTpl_eq c.env c.sidR rfl a.1 a.2 hl hwt p (hr a ha)
  rw [hfit, if_pos rfl] at hfmt
  have hp : p.isEmpty = false := by simpa using fits_ne_nil hwt hfit
  have hle : a.1.isEmpty = false := by simp [hlne]
  unfold Ctx.dictToSidStr Resolver.formatOne
  simp only [hp, hle, Bool.false_eq_true, if_false, hl, hfmt, Option.getD_some]

variable (hslash : ∀ q ∈ p, '/' ∉ q.2)
include hslash

/-- what `sid_to_dict` reads back from that string under the template's type -/
theorem sidToDict_rendered :
    c.sidToDict (rendered a.2 p) (some a.1) = .ok (some (a.1, (sidVia p a).fields)) := by
  obtain ⟨hk, hacc⟩ := fits_iff.mp hfit
  have hne : (rendered a.2 p).isEmpty = false := by simp [(hr a ha hk).1]
  rw [sidToDict_forced c hwf a.1 _ (tableOk_label_ne_nil _ _ hwf a ha)]
  simp only [forcedDict, tableOk_lookup hwf ha, hne, hacc, Bool.not_false, Bool.and_self, if_true,
    fieldsOf_rendered (tplOk_unpack _ _ (tableOk_tplOk hwf ha)).keysOf_ne_nil hslash a.1]

/-- the Sid built from the two is well typed -/
theorem sidVia_wellTyped : wellTyped c.env c.cfg.sid.templates (sidVia p a) :=
  have ⟨hk, hacc⟩ := fits_iff.mp hfit
  ⟨a.2, tableOk_lookup hwf ha, (hr a ha hk).1, hacc,
    (fieldsOf_rendered (tplOk_unpack _ _ (tableOk_tplOk hwf ha)).keysOf_ne_nil hslash a.1).symm⟩

theorem sidVia_wellTyped_fields (hnd : (p.map (·.1)).Nodup) :
    wellTyped c.env c.cfg.sid.templates (sidVia p a) ∧ (∀ k, (sidVia p a).fields.get k = p.get k) ∧
      (sidVia p a).fields.length = p.length :=
  ⟨sidVia_wellTyped c hwf p hr a ha hfit hslash, sidVia_fields hnd
    (tplOk_unpack c.env a.2 (tableOk_tplOk hwf ha)).nodup (fits_iff.mp hfit).1 a.1⟩

end fitting

theorem dictToSid_eq (hslash : ∀ q ∈ p, '/' ∉ q.2) :
    c.dictToSid p = .ok ((c.cfg.sid.templates.find? (fun a => fits c.env p a.2)).map (sidVia p)) := by
  unfold Ctx.dictToSid
  rw [dictToTypes_eq c hwf p hr, ← List.head?_filter]
  cases hf : c.cfg.sid.templates.filter (fun a => fits c.env p a.2) with
  | nil => rfl
  | cons a rest =>
    have ha := List.mem_filter.mp (hf ▸ List.mem_cons_self : a ∈ List.filter _ _)
    simp only [List.map_cons, dictToSidStr_of_fits c hwf p hr a ha.1 ha.2,
      sidToDict_rendered c hwf p hr a ha.1 ha.2 hslash, List.head?_cons, Option.map_some]
    rfl

end table

/-! ### the special case of a reordering of `zip K vals`, `K` the key list of a configured template -/

/-- the facts about `K`, `vals`, `p` that the characterisations below need: `p` is a reordering of
    `zip K vals`, and a configured template with the key set of `p` has the key LIST `K` -/
structure DictOf (ts : List (Str × Template)) (K vals : List Str) (p : Dict) : Prop where
  nodup : K.Nodup
  len : vals.length = K.length
  perm : p.Perm (K.zip vals)
  sameKeys : ∀ a ∈ ts, Dict.keysEq p (keysOf a.2) = true → keysOf a.2 = K

/-- `sameKeys` is a convention of the table (`sameKeysSameOrder`), not a consequence of the other
    fields: under it, it is enough that `K` is the key list of SOME configured template -/
theorem DictOf.of_ref {e : Env} {ts : List (Str × Template)} (hwf : sidHierOk e ts = true)
    {K vals : List Str} {p : Dict} (nodup : K.Nodup) (len : vals.length = K.length)
    (perm : p.Perm (K.zip vals)) (ref : ∃ a ∈ ts, keysOf a.2 = K) : DictOf ts K vals p := by
  refine ⟨nodup, len, perm, fun a ha hk => ?_⟩
  obtain ⟨b, hb, rfl⟩ := ref
  refine (hier_unpack _ _ hwf).sameKeys a ha b hb (fun k => ?_)
  rw [← (Dict.keysEq_iff _ _).mp hk k]
  exact Dict.keys_of_perm len perm k

theorem DictOf.keys_nodup {ts K vals p} (h : DictOf ts K vals p) : (p.map (·.1)).Nodup := by
  rw [(h.perm.map (·.1)).nodup_iff, List.map_fst_zip (Nat.le_of_eq h.len.symm)]
  exact h.nodup

theorem DictOf.get {ts K vals p} (h : DictOf ts K vals p) :
    ∀ q ∈ K.zip vals, p.get q.1 = some q.2 :=
  fun q hq => Dict.get_of_mem p h.keys_nodup q.1 q.2 (h.perm.mem_iff.mpr hq)

theorem DictOf.mem_keys_iff {ts K vals p} (h : DictOf ts K vals p) : ∀ k, k ∈ p.map (·.1) ↔ k ∈ K :=
  Dict.keys_of_perm h.len h.perm

theorem DictOf.ne_nil {ts K vals p} (h : DictOf ts K vals p) (hK : K ≠ []) : p ≠ [] := by
  intro h0
  have := h.perm.length_eq
  rw [h0, List.length_zip, h.len] at this
  cases K with
  | nil => exact hK rfl
  | cons _ _ => simp at this

section dictOf

variable {e : Env} {ts : List (Str × Template)} {K vals : List Str} {p : Dict}
  (hd : DictOf ts K vals p) {a : Str × Template}

include hd

theorem DictOf.valsOf_eq (hK : keysOf a.2 = K) : valsOf a.2 p = vals := by
  unfold valsOf
  rw [hK]
  exact Dict.map_get_zip p K vals hd.len hd.get

theorem DictOf.keysEq_true (hK : keysOf a.2 = K) : Dict.keysEq p (keysOf a.2) = true := by
  rw [Dict.keysEq_iff, hK]; exact hd.mem_keys_iff

theorem DictOf.rendered_eq (hK : keysOf a.2 = K) : rendered a.2 p = Str.joinWith '/' vals := by
  rw [rendered, hd.valsOf_eq hK]

theorem DictOf.sidVia_eq (hK : keysOf a.2 = K) :
    sidVia p a = ⟨Str.joinWith '/' vals, a.1, K.zip vals⟩ := by
  rw [sidVia, hd.rendered_eq hK, hd.valsOf_eq hK, hK]

theorem DictOf.fits_eq (ha : a ∈ ts) :
    fits e p a.2 = (keysOf a.2 == K && accepts e a.2 (Str.joinWith '/' vals)) := by
  by_cases hK : keysOf a.2 = K
  · rw [fits, hd.keysEq_true hK, hd.rendered_eq hK, beq_iff_eq.mpr hK]
  · have : Dict.keysEq p (keysOf a.2) = false := by
      cases hk : Dict.keysEq p (keysOf a.2) with
      | false => rfl
      | true => exact absurd (hd.sameKeys a ha hk) hK
    simp [fits, this, hK]

theorem DictOf.rendered_renderable (hr : renderable (Str.joinWith '/' vals)) :
    ∀ a ∈ ts, Dict.keysEq p (keysOf a.2) = true → renderable (rendered a.2 p) :=
  fun a ha hk => by rw [hd.rendered_eq (hd.sameKeys a ha hk)]; exact hr

theorem DictOf.noSlash (hsl : ∀ v ∈ vals, '/' ∉ v) : ∀ q ∈ p, '/' ∉ q.2 :=
  fun _ hq => hsl _ (List.of_mem_zip (hd.perm.mem_iff.mp hq)).2

end dictOf

/-- `Sid(fields=p)` for a `DictOf`: the first template with the key list `K` that accepts the
    joined values decides -/
theorem DictOf.dictToSid_eq (c : Ctx) (hwf : sidTableOk c.env c.cfg.sid.templates = true)
    {K vals : List Str} {p : Dict} (hd : DictOf c.cfg.sid.templates K vals p)
    (hsl : ∀ v ∈ vals, '/' ∉ v) (hr : renderable (Str.joinWith '/' vals)) :
    c.dictToSid p = .ok ((c.cfg.sid.templates.find?
      (fun a => keysOf a.2 == K && accepts c.env a.2 (Str.joinWith '/' vals))).map
        (fun a => ⟨Str.joinWith '/' vals, a.1, K.zip vals⟩)) := by
  rw [HierL.dictToSid_eq c hwf p (hd.rendered_renderable hr) (hd.noSlash hsl),
    ← List.head?_filter, List.filter_congr (fun a ha => hd.fits_eq ha), List.head?_filter]
  cases hf : c.cfg.sid.templates.find?
      (fun a => keysOf a.2 == K && accepts c.env a.2 (Str.joinWith '/' vals)) with
  | none => rfl
  | some a =>
    have hK : keysOf a.2 = K := by
      have := List.find?_some hf
      simp only [Bool.and_eq_true, beq_iff_eq] at this
      exact this.1
    rw [Option.map_some, Option.map_some, hd.sidVia_eq hK]

/-- the same when SOME configured template is known to have the key list `K` and to accept the
    joined values: a well-typed Sid comes out -/
theorem DictOf.dictToSid_some (c : Ctx) (hwf : sidTableOk c.env c.cfg.sid.templates = true)
    {K vals : List Str} {p : Dict} (hd : DictOf c.cfg.sid.templates K vals p)
    (hsl : ∀ v ∈ vals, '/' ∉ v) (hr : renderable (Str.joinWith '/' vals)) (hv : vals ≠ [])
    (b : Str × Template) (hb : b ∈ c.cfg.sid.templates) (hbK : keysOf b.2 = K)
    (hbacc : accepts c.env b.2 (Str.joinWith '/' vals) = true) :
    ∃ y, c.dictToSid p = .ok (some y) ∧ wellTyped c.env c.cfg.sid.templates y ∧
      y.string = Str.joinWith '/' vals ∧ y.fields = K.zip vals := by
  rw [hd.dictToSid_eq c hwf hsl hr]
  cases hfind : c.cfg.sid.templates.find?
      (fun a => keysOf a.2 == K && accepts c.env a.2 (Str.joinWith '/' vals)) with
  | none =>
    have := List.find?_eq_none.mp hfind b hb
    simp [hbK, hbacc] at this
  | some a =>
    have hq := List.find?_some hfind
    simp only [Bool.and_eq_true, beq_iff_eq] at hq
    refine ⟨_, rfl, ⟨a.2, tableOk_lookup hwf (List.mem_of_find?_eq_some hfind), hr.1,
      hq.2, ?_⟩, rfl, rfl⟩
    show K.zip vals = (keysOf a.2).zip (Str.splitOn '/' (Str.joinWith '/' vals))
    rw [Str.split_join '/' vals hv hsl, hq.1]

/-! ### typed Sids -/

theorem sid_eta (x : Sid) (f : Dict) (h : x.fields = f) : (⟨x.string, x.type, f⟩ : Sid) = x := by
  cases x; simp_all

theorem sid_ext {x y : Sid} (hs : x.string = y.string) (ht : x.type = y.type)
    (hf : x.fields = y.fields) : x = y := by
  cases x; cases y; simp_all

theorem uri_congr (x y : Sid) (ht : x.type = y.type) (hs : x.string = y.string) : x.uri = y.uri := by
  simp [Sid.uri, ht, hs]

theorem uri_of_type_nil {x : Sid} (h : x.type = []) : x.uri = x.string := by simp [Sid.uri, h]

theorem uri_of_type_ne_nil {x : Sid} (h : x.type ≠ []) : x.uri = x.type ++ ':' :: x.string := by
  simp [Sid.uri, h]

/-- `x` carries the label of the configured template `t`, which accepts its string and gives its
    fields: what `wellTyped` and `natural` have in common -/
structure TypedBy (e : Env) (ts : List (Str × Template)) (x : Sid) (t : Template) : Prop where
  mem : (x.type, t) ∈ ts
  acc : accepts e t x.string = true
  fields : x.fields = fieldsOf t x.string

section typedBy

variable {e : Env} {ts : List (Str × Template)} {x : Sid} {t : Template}

theorem wellTyped_typedBy (hx : wellTyped e ts x) : ∃ t, TypedBy e ts x t ∧ x.string ≠ [] := by
  obtain ⟨t, hl, hne, hacc, hf⟩ := hx
  exact ⟨t, ⟨Lst.lookup_mem _ _ _ hl, hacc, hf⟩, hne⟩

theorem natural_typedBy (hx : natural e ts x) :
    ∃ t, TypedBy e ts x t ∧ firstAccepting e ts x.string = some (x.type, t) := by
  obtain ⟨hty, heq⟩ := hx
  unfold plainSid at heq
  cases hfa : firstAccepting e ts x.string with
  | none =>
    rw [hfa] at heq
    rw [heq] at hty
    simp [Sid.typed, Sid.untyped] at hty
  | some a =>
    obtain ⟨l, t⟩ := a
    rw [hfa] at heq
    have h1 : x.type = l := congrArg Sid.type heq
    obtain ⟨hmem, hacc⟩ := firstAccepting_inv _ _ _ _ _ hfa
    exact ⟨t, ⟨h1 ▸ hmem, hacc, congrArg Sid.fields heq⟩, by rw [h1]⟩

section
variable (h : TypedBy e ts x t)
include h

theorem TypedBy.segs_length : (Str.splitOn '/' x.string).length = (keysOf t).length := by
  simpa [keysOf] using acceptsSegs_length e _ _ h.acc

theorem TypedBy.keys : x.fields.map (·.1) = keysOf t := by
  rw [h.fields]; exact List.map_fst_zip (Nat.le_of_eq h.segs_length.symm)

theorem TypedBy.vals : x.fields.map (·.2) = Str.splitOn '/' x.string := by
  rw [h.fields]; exact List.map_snd_zip (Nat.le_of_eq h.segs_length)

theorem TypedBy.fields_length : x.fields.length = (keysOf t).length := by
  rw [← h.keys, List.length_map]

variable (hwf : sidTableOk e ts = true)
include hwf

theorem TypedBy.lookup : ts.lookup x.type = some t := tableOk_lookup hwf h.mem

theorem TypedBy.tplOk : sidTplOk e t = true := tableOk_tplOk hwf h.mem

theorem TypedBy.type_ne_nil : x.type ≠ [] := tableOk_label_ne_nil e ts hwf _ h.mem

theorem TypedBy.wellTyped (hne : x.string ≠ []) : wellTyped e ts x :=
  ⟨t, h.lookup hwf, hne, h.acc, h.fields⟩

theorem TypedBy.keysOf_nodup : (keysOf t).Nodup := (tplOk_unpack e t (h.tplOk hwf)).nodup

theorem TypedBy.keysOf_ne_nil : keysOf t ≠ [] := (tplOk_unpack e t (h.tplOk hwf)).keysOf_ne_nil

theorem TypedBy.keys_nodup : (x.fields.map (·.1)).Nodup := by
  rw [h.keys]; exact h.keysOf_nodup hwf

theorem TypedBy.fields_ne_nil : x.fields ≠ [] := fun h0 =>
  h.keysOf_ne_nil hwf (List.length_eq_zero_iff.mp (by rw [← h.fields_length, h0]; rfl))

end

end typedBy

theorem TypedBy.typed {e : Env} {ts : List (Str × Template)} {x : Sid} {t : Template}
    (h : TypedBy e ts x t) (hwf : sidTableOk e ts = true) : x.typed = true := by
  have := h.fields_ne_nil hwf
  unfold Sid.typed
  cases hxf : x.fields with
  | nil => exact absurd hxf this
  | cons _ _ => rfl

theorem wellTyped_typed {e : Env} {ts : List (Str × Template)} {x : Sid}
    (hwf : sidTableOk e ts = true) (hx : wellTyped e ts x) : x.typed = true :=
  let ⟨_, ht, _⟩ := wellTyped_typedBy hx
  ht.typed hwf

theorem natural_wellTyped {e : Env} {ts : List (Str × Template)} {x : Sid}
    (hwf : sidTableOk e ts = true) (hx : natural e ts x) (hne : x.string ≠ []) : wellTyped e ts x :=
  let ⟨_, ht, _⟩ := natural_typedBy hx
  ht.wellTyped hwf hne

section ext

variable {e : Env} {ts : List (Str × Template)} {x y : Sid}

/-- the same type, hence by lookup the same template, and the same string: the same fields -/
theorem sid_ext_of_lookup {t t' : Template} (hl : ts.lookup x.type = some t)
    (hl' : ts.lookup y.type = some t') (hf : x.fields = fieldsOf t x.string)
    (hf' : y.fields = fieldsOf t' y.string) (hty : x.type = y.type) (hs : x.string = y.string) :
    x = y := by
  rw [hty, hl'] at hl
  cases hl
  exact sid_ext hs hty (by rw [hf, hf', hs])

theorem wellTyped_ext (hx : wellTyped e ts x) (hy : wellTyped e ts y) :
    x.type = y.type → x.string = y.string → x = y :=
  let ⟨_, hl, _, _, hf⟩ := hx
  let ⟨_, hl', _, _, hf'⟩ := hy
  sid_ext_of_lookup hl hl' hf hf'

theorem TypedBy.ext {t t' : Template} (hx : TypedBy e ts x t) (hy : TypedBy e ts y t')
    (hwf : sidTableOk e ts = true) : x.type = y.type → x.string = y.string → x = y :=
  sid_ext_of_lookup (hx.lookup hwf) (hy.lookup hwf) hx.fields hy.fields

end ext

theorem wellTyped_get_last {e : Env} {ts : List (Str × Template)} {x : Sid}
    (hwf : sidTableOk e ts = true) (hx : wellTyped e ts x) {key : Str}
    (hlast : (x.fields.map (·.1)).getLast? = some key) :
    x.fields.get key = (Str.splitOn '/' x.string).getLast? := by
  obtain ⟨t, ht, _⟩ := wellTyped_typedBy hx
  rw [← ht.vals]
  exact Dict.get_getLast _ (ht.keys_nodup hwf) key hlast

section
variable (c : Ctx) (hwf : sidHierOk c.env c.cfg.sid.templates = true) (x : Sid)
  (hx : wellTyped c.env c.cfg.sid.templates x)
include hwf hx

theorem sidOfString_uri (hq : '?' ∉ x.string) : c.sidOfString x.uri = .ok x := by
  have h1 := hier_table hwf
  obtain ⟨t, ht, hne⟩ := wellTyped_typedBy hx
  have hplain := (hier_unpack _ _ hwf).plain _ ht.mem
  have hq' : '?' ∉ x.type ++ ':' :: x.string := by
    simp only [List.mem_append, List.mem_cons, not_or]
    exact ⟨hplain.2, by decide, hq⟩
  rw [uri_of_type_ne_nil (ht.type_ne_nil h1),
    C01.c01_forced c h1 x.type x.string (ht.type_ne_nil h1) hplain.1 hq']
  have hne' : x.string.isEmpty = false := by simp [hne]
  simp only [forcedSid, ht.lookup h1, hne', ht.acc, Bool.not_false, Bool.and_self, if_true]
  rw [sid_eta x _ ht.fields]

/-- the `Sid(uri)` copy the Finders take of a search Sid, when it is typed -/
theorem sidOfString_uri_of_typed (hq : '?' ∉ x.string) :
    (if x.typed then c.sidOfString x.uri else .ok Sid.empty) = .ok x := by
  rw [wellTyped_typed (hier_table hwf) hx, if_pos rfl, sidOfString_uri c hwf x hx hq]

theorem parent_single (hn : x.fields.length = 1) (hq : '?' ∉ x.string) : c.parent x = .ok x := by
  obtain ⟨a, ha⟩ := List.length_eq_one_iff.mp hn
  rw [← sidOfString_uri c hwf x hx hq]
  simp [Ctx.parent, Ctx.copy, ha]

end

theorem TypedBy.dictOf {e : Env} {ts : List (Str × Template)} {x : Sid} {t : Template}
    (h : TypedBy e ts x t) (hwf : sidHierOk e ts = true) {p : Dict} (hp : p.Perm x.fields) :
    DictOf ts (keysOf t) (Str.splitOn '/' x.string) p :=
  DictOf.of_ref hwf (h.keysOf_nodup (hier_table hwf)) h.segs_length
    (show p.Perm (fieldsOf t x.string) from h.fields ▸ hp) ⟨_, h.mem, rfl⟩

/-- the first template fitting the fields of a naturally typed Sid, in any order, is its own -/
theorem natural_find_fits {e : Env} {ts : List (Str × Template)} {x : Sid}
    (hwf : sidHierOk e ts = true) (hx : natural e ts x) {p : Dict} (hp : p.Perm x.fields) :
    ∃ t, TypedBy e ts x t ∧ ts.find? (fun a => fits e p a.2) = some (x.type, t) := by
  obtain ⟨t, ht, hfa⟩ := natural_typedBy hx
  refine ⟨t, ht, ?_⟩
  rw [← List.head?_filter, List.filter_congr (fun a ha => (ht.dictOf hwf hp).fits_eq ha),
    List.head?_filter, Str.join_split]
  exact Lst.find?_and (q := fun a => keysOf a.2 == keysOf t) (firstAccepting_eq_find e _ ts ▸ hfa)
    (by simp)

/-! ### '/'-segments -/

theorem acceptsSegs_take (e : Env) : ∀ (n : Nat) (ps : List (Str × Re)) (segs : List Str),
    acceptsSegs e ps segs = true → acceptsSegs e (ps.take n) (segs.take n) = true
  | 0, _, _, _ => by simp [acceptsSegs]
  | _ + 1, [], [], _ => by simp [acceptsSegs]
  | _ + 1, [], _ :: _, h => by simp [acceptsSegs] at h
  | _ + 1, _ :: _, [], h => by simp [acceptsSegs] at h
  | n + 1, (k, r) :: ps, g :: gs, h => by
    simp only [acceptsSegs, Bool.and_eq_true] at h
    simp only [List.take_succ_cons, acceptsSegs, Bool.and_eq_true]
    exact ⟨h.1, acceptsSegs_take e n ps gs h.2⟩

/-- a key that the template does not have is appended, with its value -/
theorem fieldsOf_set_new (t : Template) (fr key v : Str)
    (hlen : (Str.splitOn '/' fr).length = (keysOf t).length) (hk : key ∉ keysOf t) :
    Dict.set (fieldsOf t fr) key v = (keysOf t ++ [key]).zip (Str.splitOn '/' fr ++ [v]) := by
  have hfst : (fieldsOf t fr).map (·.1) = keysOf t := List.map_fst_zip (Nat.le_of_eq hlen.symm)
  rw [Dict.set_append_new _ key v (by rw [hfst]; exact hk)]
  show (keysOf t).zip (Str.splitOn '/' fr) ++ [(key, v)] = _
  rw [List.zip_append hlen.symm]
  rfl

/-- setting the LAST key replaces the last segment -/
theorem TypedBy.set_last {e : Env} {ts : List (Str × Template)} {x : Sid} {t : Template}
    (ht : TypedBy e ts x t) (hnd : (keysOf t).Nodup) {key : Str}
    (hlast : (keysOf t).getLast? = some key) (v : Str) :
    Dict.set x.fields key v = (keysOf t).zip ((Str.splitOn '/' x.string).dropLast ++ [v]) := by
  obtain ⟨K0, hK0⟩ := List.getLast?_eq_some_iff.1 hlast
  have hsne := Str.splitOn_ne_nil '/' x.string
  have hlen0 : K0.length = (Str.splitOn '/' x.string).dropLast.length := by
    rw [List.length_dropLast, ht.segs_length, hK0]
    simp
  rw [ht.fields]
  show Dict.set ((keysOf t).zip (Str.splitOn '/' x.string)) key v = _
  rw [hK0] at hnd ⊢
  conv => lhs; rw [← List.dropLast_concat_getLast hsne]
  rw [List.zip_append hlen0, List.zip_append hlen0]
  exact Dict.set_replace key _ v [] _
    (by rw [List.map_fst_zip (Nat.le_of_eq hlen0)]; exact ((Lst.nodup_snoc _ _).1 hnd).2)

/-- a Sid all of whose keys are `k` has one field, the whole string -/
theorem TypedBy.const_key {e : Env} {ts : List (Str × Template)} {x : Sid} {t : Template}
    (ht : TypedBy e ts x t) (hwf : sidTableOk e ts = true) (k : Str)
    (hall : ∀ p ∈ x.fields, p.1 = k) : ∀ p ∈ x.fields, p.2 = x.string := by
  have hnd := ht.keys_nodup hwf
  have hv := ht.vals
  match hxf : x.fields, ht.fields_ne_nil hwf with
  | [p], _ =>
    intro q hq
    rw [hxf] at hv
    rw [List.mem_singleton.1 hq, ← Str.join_split '/' x.string, ← hv]
    rfl
  | p :: p' :: rest, _ =>
    rw [hxf] at hnd hall
    simp only [List.map_cons, List.nodup_cons, List.mem_cons, not_or] at hnd
    exact absurd ((hall p (by simp)).trans (hall p' (by simp)).symm) hnd.1.1

/-! ### the first `n` fields of a typed Sid -/

section take

variable {e : Env} {ts : List (Str × Template)} {x : Sid} {t : Template} (h : TypedBy e ts x t)
include h

theorem TypedBy.fields_take (n : Nat) :
    x.fields.take n = ((keysOf t).take n).zip ((Str.splitOn '/' x.string).take n) := by
  rw [h.fields]; exact List.take_zipWith

variable (hwf : sidHierOk e ts = true) {n : Nat} (h0 : 0 < n)
include hwf h0

/-- their template: `t` itself for all the fields, else by `prefixClosed` -/
theorem TypedBy.prefix_tpl : ∃ b ∈ ts, keysOf b.2 = (keysOf t).take n ∧
    accepts e b.2 (Str.joinWith '/' ((Str.splitOn '/' x.string).take n)) = true := by
  obtain ⟨b, hb, hbphs⟩ : ∃ b ∈ ts, phs b.2 = (phs t).take n := by
    by_cases hlt : n < (phs t).length
    · exact (hier_unpack _ _ hwf).prefixes _ h.mem n h0 hlt
    · exact ⟨_, h.mem, by rw [List.take_of_length_le (by omega)]⟩
  refine ⟨b, hb, by simp only [keysOf, hbphs, List.map_take], ?_⟩
  unfold accepts
  rw [Str.splitOn_joinWith_take '/' x.string n h0, hbphs]
  exact acceptsSegs_take e n _ _ h.acc

theorem TypedBy.dictOf_take :
    DictOf ts ((keysOf t).take n) ((Str.splitOn '/' x.string).take n) (x.fields.take n) := by
  obtain ⟨b, hb, hbK, _⟩ := h.prefix_tpl hwf h0
  exact DictOf.of_ref hwf ((h.keysOf_nodup (hier_table hwf)).sublist (List.take_sublist _ _))
    (by rw [List.length_take, List.length_take, h.segs_length]) (by rw [h.fields_take])
    ⟨b, hb, hbK⟩

end take

/-! ### the loop of `get_as` -/

theorem prefixUpTo_take : ∀ (d : Dict) (i : Nat) (hi : i < d.length), (d.map (·.1)).Nodup →
    Ctx.prefixUpTo (d[i]).1 d = d.take (i + 1)
  | [], _, hi, _ => by simp at hi
  | (k, v) :: d, 0, _, _ => by simp [Ctx.prefixUpTo]
  | (k, v) :: d, i + 1, hi, hnd => by
    simp only [List.map_cons, List.nodup_cons] at hnd
    have hi' : i < d.length := by simpa using hi
    have hne : k ≠ (d[i]).1 := by
      intro h; apply hnd.1; rw [h]; exact List.mem_map.mpr ⟨d[i], List.getElem_mem _, rfl⟩
    have hne' : (k == (d[i]).1) = false := by simpa using hne
    simp only [List.getElem_cons_succ, Ctx.prefixUpTo, hne', Bool.false_eq_true, if_false,
      List.take_succ_cons, List.cons.injEq, true_and]
    exact prefixUpTo_take d i hi' hnd.2

theorem getAs_at (c : Ctx) (x : Sid) (hnd : (x.fields.map (·.1)).Nodup) (i : Nat)
    (hi : i < x.fields.length) :
    c.getAs x (x.fields.map (·.1))[i]! = c.sidOfFields (x.fields.take (i + 1)) := by
  have hkey : (x.fields.map (·.1))[i]! = (x.fields[i]).1 := by
    simp [List.getElem!_eq_getElem?_getD, List.getElem?_map, List.getElem?_eq_getElem hi]
  have hfne : x.fields.isEmpty = false := by
    simp [List.ne_nil_of_length_pos (Nat.zero_lt_of_lt hi)]
  have hhas : x.fields.hasKey (x.fields[i]).1 = true :=
    (Dict.hasKey_iff_mem _ _).mpr (List.mem_map.mpr ⟨x.fields[i], List.getElem_mem _, rfl⟩)
  simp only [Ctx.getAs, hkey, hfne, hhas, Bool.false_eq_true, if_false, Bool.not_true,
    prefixUpTo_take x.fields i hi hnd]

/-! ### `get_as` and `parent` of a well-typed Sid -/

theorem getAs_of_wellTyped (c : Ctx) (hwf : sidHierOk c.env c.cfg.sid.templates = true) (x : Sid)
    (hx : wellTyped c.env c.cfg.sid.templates x) (i : Nat) (hi : i < x.fields.length)
    (hr : renderable (Str.joinWith '/' ((Str.splitOn '/' x.string).take (i + 1)))) :
    ∃ y, c.getAs x (x.fields.map (·.1))[i]! = .ok y ∧ wellTyped c.env c.cfg.sid.templates y ∧
      y.fields = x.fields.take (i + 1) ∧
      y.string = Str.joinWith '/' ((Str.splitOn '/' x.string).take (i + 1)) := by
  have h1 := hier_table hwf
  obtain ⟨t, ht, _⟩ := wellTyped_typedBy hx
  obtain ⟨b, hb, hbK, hbacc⟩ := ht.prefix_tpl hwf (Nat.succ_pos i)
  obtain ⟨y, hy, hwt, hys, hyf⟩ := (ht.dictOf_take hwf (Nat.succ_pos i)).dictToSid_some c h1
    (fun v hv => Str.splitOn_not_mem '/' x.string v (List.mem_of_mem_take hv)) hr
    (by simp [Str.splitOn_ne_nil]) b hb hbK hbacc
  refine ⟨y, ?_, hwt, by rw [hyf, ht.fields_take], hys⟩
  have hne : (x.fields.take (i + 1)).isEmpty = false := by
    simp [List.ne_nil_of_length_pos (Nat.zero_lt_of_lt hi)]
  rw [getAs_at c x (ht.keys_nodup h1) i hi]
  simp only [Ctx.sidOfFields, hne, Bool.false_eq_true, if_false, hy, Option.getD_some]

/-- the last component is what lets `c03_parent` resolve `parent / last value` again (`c01_plain`) -/
theorem parent_of_wellTyped (c : Ctx) (hwf : sidHierOk c.env c.cfg.sid.templates = true) (x : Sid)
    (hx : wellTyped c.env c.cfg.sid.templates x) (hn : 2 ≤ x.fields.length)
    (hr : renderable (Str.joinWith '/' ((Str.splitOn '/' x.string).take (x.fields.length - 1)))) :
    ∃ p, c.parent x = .ok p ∧ c.getAs x (x.fields.map (·.1))[x.fields.length - 2]! = .ok p ∧
      wellTyped c.env c.cfg.sid.templates p ∧ p.fields = x.fields.take (x.fields.length - 1) ∧
      p.string = Str.joinWith '/' ((Str.splitOn '/' x.string).take (x.fields.length - 1)) ∧
      p.string ++ '/' :: ((x.fields.map (·.2)).getLast?.getD []) = x.string := by
  have h1 := hier_table hwf
  obtain ⟨t, ht, _⟩ := wellTyped_typedBy hx
  have hidx : x.fields.length - 2 + 1 = x.fields.length - 1 := by omega
  obtain ⟨y, hy1, hy2, hy3, hy4⟩ := getAs_of_wellTyped c hwf x hx (x.fields.length - 2) (by omega)
    (by rw [hidx]; exact hr)
  rw [hidx] at hy3 hy4
  refine ⟨y, ?_, hy1, hy2, hy3, hy4, ?_⟩
  · rw [← hy1]
    obtain ⟨front, a, b, hfab⟩ := Lst.exists_two_last x.fields hn
    have hkey : (x.fields.map (·.1))[x.fields.length - 2]! = a.1 := by
      rw [hfab]
      simp
    rw [hkey]
    unfold Ctx.parent
    have hfne : x.fields.isEmpty = false := by rw [hfab]; simp
    simp only [hfne, Bool.false_eq_true, if_false]
    rw [hfab]
    -- `(front ++ [a, b]).reverse` is `b :: a :: _`: the branch `_ :: (pk, _) :: _` of `parent`
    simp
  · rw [hy4, ht.vals]
    have hsl : (Str.splitOn '/' x.string).length = x.fields.length := by
      rw [ht.segs_length, ht.fields_length]
    rw [← hsl, Str.joinWith_dropLast_last '/' _ (by omega), Str.join_split]

theorem walk_of_wellTyped (c : Ctx) (x : Sid) (hwf : sidHierOk c.env c.cfg.sid.templates = true)
    (hx : wellTyped c.env c.cfg.sid.templates x)
    (hr : ∀ n, 0 < n → n < x.fields.length →
      renderable (Str.joinWith '/' ((Str.splitOn '/' x.string).take n))) :
    ∃ r, (Nat.repeat (fun (a : Except Err Sid) => a.bind c.parent) (x.fields.length - 1) (.ok x)) = .ok r ∧
      r.fields = x.fields.take 1 := by
  generalize hm : x.fields.length - 1 = m
  induction m generalizing x with
  | zero =>
    refine ⟨x, rfl, ?_⟩
    rw [List.take_of_length_le (by omega)]
  | succ m ih =>
    have hn : 2 ≤ x.fields.length := by omega
    obtain ⟨p, hp1, _, hp3, hp4, hp5, _⟩ := parent_of_wellTyped c hwf x hx hn
      (hr _ (by omega) (by omega))
    have hplen : p.fields.length = m + 1 := by rw [hp4, List.length_take]; omega
    have hsplit : Str.splitOn '/' p.string = (Str.splitOn '/' x.string).take (x.fields.length - 1) := by
      rw [hp5]; exact Str.splitOn_joinWith_take '/' x.string _ (by omega)
    obtain ⟨r, hr1, hr2⟩ := ih p hp3 (by
      intro n hn0 hnlt
      rw [hsplit, List.take_take, Nat.min_eq_left (by omega)]
      exact hr n hn0 (by omega)) (by omega)
    refine ⟨r, ?_, ?_⟩
    · rw [Lst.repeat_succ_comm]
      show Nat.repeat _ m (c.parent x) = _
      rw [hp1]; exact hr1
    · rw [hr2, hp4, List.take_take, Nat.min_eq_left (by omega)]

end HierL
