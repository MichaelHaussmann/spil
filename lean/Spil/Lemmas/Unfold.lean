/-
  Spil.Lemmas.Unfold — lemmas about `Spec.altsOf`, the or-operator model (`Ctx.orOnPath`,
  `Ctx.orQueryGo`), `Ctx.sortSids`, and the form of a result of `Ctx.unfoldSearch`.
-/
import Spil.Spec.Unfold
import Spil.Lemmas.Str
import Spil.Lemmas.StrOnce
import Spil.Lemmas.Lst
import Spil.Lemmas.Dict

namespace Ctx

open Spec

/-! ### alternatives (`Spec.altsOf`) -/

theorem altsOf_infix (part : Str) : ∀ a ∈ altsOf part, a <:+: part := by
  intro a ha
  unfold altsOf at ha
  split at ha
  · obtain ⟨p, hp, rfl⟩ := List.mem_map.1 ha
    exact (Str.strip_infix p).trans (Str.splitOn_infix ',' part p hp)
  · simp at ha; subst ha; exact List.infix_rfl

theorem altsOf_not_mem (c : Char) (part : Str) (h : c ∉ part) : ∀ a ∈ altsOf part, c ∉ a :=
  fun a ha hc => h ((altsOf_infix part a ha).subset hc)

theorem altsOf_of_noComma (p : Str) (h : ',' ∉ p) : altsOf p = [p] := by
  simp [altsOf, (Str.hasChar_eq_false_iff _ _).2 h]

theorem altsOf_noComma_stripped (p : Str) :
    ∀ a ∈ altsOf p, ',' ∉ a ∧ (',' ∈ p → Str.strip a = a) := by
  intro a ha
  unfold altsOf at ha
  split at ha
  · next hc =>
    obtain ⟨q, hq, rfl⟩ := List.mem_map.1 ha
    refine ⟨?_, fun _ => Str.strip_idem q⟩
    intro hm
    exact Str.splitOn_not_mem ',' p q hq ((Str.strip_infix q).subset hm)
  · next hc =>
    simp only [List.mem_singleton] at ha
    subst ha
    have hc' : ',' ∉ a := by simpa [Str.hasChar_iff] using hc
    exact ⟨hc', fun h => absurd h hc'⟩

theorem altsOf_alt (p alt : Str) (h : alt ∈ altsOf p) : altsOf alt = [alt] :=
  altsOf_of_noComma alt (altsOf_noComma_stripped p alt h).1

theorem mem_altsOf_join (L : List Str) (hne : L ≠ []) (hc : ∀ e ∈ L, ',' ∉ e)
    (hs : 2 ≤ L.length → ∀ e ∈ L, Str.strip e = e) (x : Str) :
    x ∈ altsOf (Str.joinWith ',' L) ↔ x ∈ L := by
  match L, hne with
  | [e], _ =>
    simp only [Str.joinWith]
    rw [altsOf_of_noComma e (hc e (by simp))]
  | e1 :: e2 :: rest, _ =>
    have hcm : Str.hasChar ',' (Str.joinWith ',' (e1 :: e2 :: rest)) = true := by
      rw [Str.hasChar_iff]; simp [Str.joinWith]
    have hsp := Str.split_join ',' (e1 :: e2 :: rest) (by simp) hc
    unfold altsOf
    rw [if_pos hcm, hsp]
    have hs' := hs (by simp)
    constructor
    · intro hx
      obtain ⟨e, he, rfl⟩ := List.mem_map.1 hx
      rw [hs' e he]; exact he
    · intro hx
      exact List.mem_map.2 ⟨x, hx, hs' x hx⟩

/-! ### `or_on_path` -/

/-- one step of the spec product -/
def orStep (acc : List Str) (part : Str) : List Str :=
  (altsOf part).flatMap (fun a => acc.map (fun x => x ++ '/' :: a))

theorem addSeg_ne {n : Nat} {cur : List Str} (hc : ∀ x ∈ cur, Str.countChar '/' x = n)
    (a : Str) (ha : '/' ∉ a) : ∀ x ∈ cur, ∀ y ∈ cur, x ++ '/' :: a ≠ y := by
  intro x hx y hy e
  have := congrArg (Str.countChar '/') e
  rw [Str.countChar_addSeg (hc x hx) ha, hc y hy] at this
  omega

/-- a walk that replaces each `sid` still in `found` by `sid/part` extends every element in place
    (duplicates allowed: each turn hits the first remaining occurrence) -/
theorem replace_walk (part : Str) (go : List Str → List Str → List Str) (hnil : ∀ f, go [] f = f)
    (hstep : ∀ x l f, x ∈ f → go (x :: l) f = go l (Lst.replaceFirst x (x ++ '/' :: part) f)) :
    ∀ (l done : List Str), (∀ x ∈ l, x ∉ done) → (∀ x ∈ l, ∀ y ∈ l, x ++ '/' :: part ≠ y) →
      go l (done ++ l) = done ++ l.map (fun x => x ++ '/' :: part)
  | [], done, _, _ => by simp [hnil]
  | x :: l, done, h1, h2 => by
    rw [hstep x l _ (by simp), Lst.replaceFirst_append x _ done l (h1 x (by simp))]
    have := replace_walk part go hnil hstep l (done ++ [x ++ '/' :: part])
      (fun y hy => by
        simp only [List.mem_append, List.mem_singleton, not_or]
        exact ⟨h1 y (by simp [hy]), fun e => h2 x (by simp) y (by simp [hy]) e.symm⟩)
      (fun a ha b hb => h2 a (by simp [ha]) b (by simp [hb]))
    simpa using this

theorem orPlain_self (part : Str) (cur : List Str)
    (h : ∀ x ∈ cur, ∀ y ∈ cur, x ++ '/' :: part ≠ y) :
    orPlain part cur cur = cur.map (fun x => x ++ '/' :: part) := by
  simpa using replace_walk part (orPlain part) (fun _ => rfl) (fun _ _ _ _ => rfl) cur [] (by simp) h

/-- the first alternative of an or-part: every `sid` is still in `found`, so it is replaced -/
theorem orAlt_first (alt : Str) (cur : List Str) (h : ∀ x ∈ cur, ∀ y ∈ cur, x ++ '/' :: alt ≠ y) :
    orAlt alt cur cur = cur.map (fun x => x ++ '/' :: alt) := by
  simpa using replace_walk alt (orAlt alt) (fun _ => rfl)
    (fun x l f hx => by simp [orAlt, hx]) cur [] (by simp) h

/-- a later alternative: no `sid` of `current` is in `found` any more, so it is appended -/
theorem orAlt_later (alt : Str) : ∀ (l found : List Str), (∀ x ∈ l, x ∉ found) →
    (∀ x ∈ l, ∀ y ∈ l, x ++ '/' :: alt ≠ y) →
    orAlt alt l found = found ++ l.map (fun x => x ++ '/' :: alt)
  | [], found, _, _ => by simp [orAlt]
  | x :: l, found, h1, h2 => by
    have hc : found.contains x = false := by simpa using h1 x (by simp)
    simp only [orAlt, hc, List.map_cons]
    have := orAlt_later alt l (found ++ [x ++ '/' :: alt])
      (fun y hy => by
        simp only [List.mem_append, List.mem_singleton, not_or]
        exact ⟨h1 y (by simp [hy]), fun e => h2 x (by simp) y (by simp [hy]) e.symm⟩)
      (fun a ha b hb => h2 a (by simp [ha]) b (by simp [hb]))
    simpa using this

theorem orAlt_foldl_later {n : Nat} (cur : List Str) (hc : ∀ x ∈ cur, Str.countChar '/' x = n) :
    ∀ (alts : List Str) (found : List Str), (∀ a ∈ alts, '/' ∉ a) →
      (∀ x ∈ found, Str.countChar '/' x = n + 1) →
      alts.foldl (fun f alt => orAlt alt cur f) found =
        found ++ alts.flatMap (fun a => cur.map (fun x => x ++ '/' :: a))
  | [], found, _, _ => by simp
  | a :: alts, found, ha, hf => by
    simp only [List.foldl_cons, List.flatMap_cons]
    have hne : ∀ x ∈ cur, x ∉ found := by
      intro x hx hxf
      have := hf x hxf
      rw [hc x hx] at this
      omega
    rw [orAlt_later a cur found hne (addSeg_ne hc a (ha a (by simp)))]
    rw [orAlt_foldl_later cur hc alts _ (fun b hb => ha b (by simp [hb]))]
    · simp
    · intro y hy
      rcases List.mem_append.1 hy with hy | hy
      · exact hf y hy
      · obtain ⟨x, hx, rfl⟩ := List.mem_map.1 hy
        exact Str.countChar_addSeg (hc x hx) (ha a (by simp))

theorem orAlt_foldl {n : Nat} (cur : List Str) (hc : ∀ x ∈ cur, Str.countChar '/' x = n)
    (alts : List Str) (hne : alts ≠ []) (ha : ∀ a ∈ alts, '/' ∉ a) :
    alts.foldl (fun f alt => orAlt alt cur f) cur =
      alts.flatMap (fun a => cur.map (fun x => x ++ '/' :: a)) := by
  cases alts with
  | nil => exact absurd rfl hne
  | cons a alts =>
    simp only [List.foldl_cons, List.flatMap_cons]
    rw [orAlt_first a cur (addSeg_ne hc a (ha a (by simp)))]
    apply orAlt_foldl_later cur hc alts _ (fun b hb => ha b (by simp [hb]))
    intro y hy
    obtain ⟨x, hx, rfl⟩ := List.mem_map.1 hy
    exact Str.countChar_addSeg (hc x hx) (ha a (by simp))

theorem orParts_eq : ∀ (parts : List Str) (found : List Str) (n : Nat),
    (∀ p ∈ parts, '/' ∉ p) → (∀ x ∈ found, Str.countChar '/' x = n) →
    orParts parts found = parts.foldl orStep found
  | [], _, _, _, _ => rfl
  | part :: rest, found, n, hp, hc => by
    have hp0 : '/' ∉ part := hp part (by simp)
    have ha := altsOf_not_mem '/' part hp0
    have hstep : (if Str.hasChar ',' part then
          ((Str.splitOn ',' part).map Str.strip).foldl (fun f alt => orAlt alt found f) found
        else orPlain part found found) = orStep found part := by
      unfold orStep
      by_cases hcm : Str.hasChar ',' part = true
      · have hal : altsOf part = (Str.splitOn ',' part).map Str.strip := by simp [altsOf, hcm]
        rw [if_pos hcm, hal]
        apply orAlt_foldl found hc
        · simpa using Str.splitOn_ne_nil ',' part
        · rw [← hal]; exact ha
      · have hal : altsOf part = [part] := by simp [altsOf, hcm]
        rw [if_neg hcm, hal]
        simp [orPlain_self part found (addSeg_ne hc part hp0)]
    simp only [orParts, List.foldl_cons, hstep]
    apply orParts_eq rest _ (n + 1) (fun p h => hp p (by simp [h]))
    intro y hy
    simp only [orStep, List.mem_flatMap, List.mem_map] at hy
    obtain ⟨a, haa, x, hx, rfl⟩ := hy
    exact Str.countChar_addSeg (hc x hx) (ha a haa)

/-! ### the sentinel and the final loop -/

theorem startMark_noSlash : '/' ∉ startMark := by decide

theorem orProduct_cons (p : Str) (rest : List Str) :
    orProduct (p :: rest) = rest.foldl orStep (altsOf p) := rfl

theorem foldl_orStep_map_prefix (pre : Str) : ∀ (rest : List Str) (acc : List Str),
    rest.foldl orStep (acc.map (fun y => pre ++ y)) =
      (rest.foldl orStep acc).map (fun y => pre ++ y)
  | [], _ => rfl
  | part :: rest, acc => by
    simp only [List.foldl_cons]
    rw [← foldl_orStep_map_prefix pre rest]
    congr 1
    simp [orStep, List.map_flatMap, Function.comp_def]

theorem foldl_orStep_not_infix (m : Str) (hm : '/' ∉ m) (hne : m ≠ []) :
    ∀ (rest : List Str) (acc : List Str),
      (∀ p ∈ rest, ∀ a ∈ altsOf p, ¬ m <:+: a) → (∀ y ∈ acc, ¬ m <:+: y) →
      ∀ y ∈ rest.foldl orStep acc, ¬ m <:+: y
  | [], _, _, hacc => hacc
  | part :: rest, acc, hr, hacc => by
    simp only [List.foldl_cons]
    apply foldl_orStep_not_infix m hm hne rest _ (fun p hp => hr p (by simp [hp]))
    intro y hy
    simp only [orStep, List.mem_flatMap, List.mem_map] at hy
    obtain ⟨a, ha, x, hx, rfl⟩ := hy
    rw [Str.infix_append_sep '/' m hm]
    rintro (h | h)
    · exact hacc x hx h
    · exact hr part (by simp) a ha h

theorem orProduct_not_infix (m : Str) (hm : '/' ∉ m) (hne : m ≠ []) (s : Str)
    (hs : ¬ m <:+: s) : ∀ y ∈ orProduct (Str.splitOn '/' s), ¬ m <:+: y := by
  have hparts : ∀ p ∈ Str.splitOn '/' s, ∀ a ∈ altsOf p, ¬ m <:+: a := by
    intro p hp a ha h
    exact hs ((h.trans (altsOf_infix p a ha)).trans (Str.splitOn_infix '/' s p hp))
  cases hsp : Str.splitOn '/' s with
  | nil => simp [orProduct]
  | cons p rest =>
    rw [hsp] at hparts
    rw [orProduct_cons]
    exact foldl_orStep_not_infix m hm hne rest _ (fun q hq => hparts q (by simp [hq]))
      (hparts p (by simp))

/-- the final loop: its duplicate test never fires, the sentinel prefix is removed.  (`m` stands
    for the literal `startMark ++ ['/']`, so that the steps do not carry the ten characters) -/
theorem orFinish_eq (m : Str) (hmne : m ≠ []) (hsm : startMark ++ ['/'] = m) :
    ∀ (l res : List Str), (∀ y ∈ l, ¬ startMark <:+: y) → (∀ r ∈ res, ¬ startMark <:+: r) →
      orFinish (l.map (fun y => m ++ y)) res = res ++ l
  | [], res, _, _ => by simp [orFinish]
  | y :: l, res, hl, hres => by
    have hy : ¬ startMark <:+: y := hl y (by simp)
    have hc : res.contains (m ++ y) = false := by
      have : m ++ y ∉ res := by
        intro h
        apply hres _ h
        rw [← hsm]
        exact ⟨[], '/' :: y, by simp⟩
      simpa using this
    have hrep : Str.replace (m ++ y) (startMark ++ ['/']) [] = y := by
      rw [hsm]
      apply Str.replace_prefix_drop m y hmne
      rw [Str.isInfix_eq_false_iff, ← hsm]
      intro h
      exact hy ((List.prefix_append startMark ['/']).isInfix.trans h)
    simp only [List.map_cons, orFinish, hc, hrep]
    rw [orFinish_eq m hmne hsm l (res ++ [y]) (fun z hz => hl z (by simp [hz]))]
    · simp
    · intro r hr
      rcases List.mem_append.1 hr with hr | hr
      · exact hres r hr
      · simp at hr; subst hr; exact hy

theorem orOnPath_eq (s : Str) (hm : ¬ startMark <:+: s) :
    orOnPath s = orProduct (Str.splitOn '/' s) := by
  have hprod := orProduct_not_infix startMark startMark_noSlash (by decide) s hm
  unfold orOnPath
  rw [orParts_eq (Str.splitOn '/' s) [startMark] 0 (Str.splitOn_not_mem '/' s)
    (by intro x hx; simp at hx; subst hx; decide)]
  revert hprod
  cases hsp : Str.splitOn '/' s with
  | nil => exact absurd hsp (Str.splitOn_ne_nil '/' s)
  | cons p rest =>
    intro hprod
    rw [orProduct_cons] at hprod ⊢
    have h1 : orStep [startMark] p = (altsOf p).map (fun y => (startMark ++ ['/']) ++ y) := by
      simp only [orStep, List.map_cons, List.map_nil, List.append_assoc, List.cons_append,
        List.nil_append]
      induction altsOf p with
      | nil => rfl
      | cons a as ih => simp [ih]
    simp only [List.foldl_cons, h1]
    rw [foldl_orStep_map_prefix]
    have := orFinish_eq (startMark ++ ['/']) (by decide) rfl _ [] hprod (by simp)
    simpa using this

/-! ### products as choices -/

theorem mem_foldl_orStep : ∀ (rest : List Str) (acc : List Str) (x : Str),
    x ∈ rest.foldl orStep acc ↔
      ∃ y ∈ acc, ∃ picks, Choice rest picks ∧ x = picks.foldl (fun acc a => acc ++ '/' :: a) y
  | [], acc, x => by
    simp only [List.foldl_nil]
    constructor
    · intro h; exact ⟨x, h, [], Choice.nil, rfl⟩
    · rintro ⟨y, hy, picks, hc, rfl⟩
      cases hc; exact hy
  | part :: rest, acc, x => by
    simp only [List.foldl_cons]
    rw [mem_foldl_orStep rest]
    constructor
    · rintro ⟨y', hy', picks, hc, rfl⟩
      simp only [orStep, List.mem_flatMap, List.mem_map] at hy'
      obtain ⟨a, ha, y, hy, rfl⟩ := hy'
      exact ⟨y, hy, a :: picks, Choice.cons ha hc, rfl⟩
    · rintro ⟨y, hy, picks, hc, rfl⟩
      cases hc with
      | cons ha hc' =>
        rename_i a as
        refine ⟨y ++ '/' :: a, ?_, as, hc', rfl⟩
        simp only [orStep, List.mem_flatMap, List.mem_map]
        exact ⟨a, ha, y, hy, rfl⟩

theorem mem_orProduct (parts : List Str) (hne : parts ≠ []) (x : Str) :
    x ∈ orProduct parts ↔ ∃ picks, Choice parts picks ∧ x = Str.joinWith '/' picks := by
  cases parts with
  | nil => exact absurd rfl hne
  | cons p rest =>
    rw [orProduct_cons, mem_foldl_orStep]
    constructor
    · rintro ⟨a, ha, picks, hc, rfl⟩
      exact ⟨a :: picks, Choice.cons ha hc, (Str.joinWith_cons_eq_foldl picks a).symm⟩
    · rintro ⟨picks, hc, rfl⟩
      cases hc with
      | cons ha hc' =>
        rename_i a as
        exact ⟨a, ha, as, hc', Str.joinWith_cons_eq_foldl as a⟩

/-! ### `or_on_query` -/

theorem mem_orQueryGo : ∀ (items : List (Str × Str)) (result : List Dict) (d : Dict),
    d ∈ orQueryGo items result ↔ ∃ d0 ∈ result, d ∈ orQueryGo items [d0]
  | [], result, d => by simp [orQueryGo]
  | (k, v) :: rest, result, d => by
    simp only [orQueryGo]
    split
    · rw [mem_orQueryGo rest]
      constructor
      · rintro ⟨d1, hd1, hd⟩
        simp only [List.mem_flatMap, List.mem_map] at hd1
        obtain ⟨i, hi, d0, hd0, rfl⟩ := hd1
        refine ⟨d0, hd0, (mem_orQueryGo rest _ d).2 ⟨Dict.set d0 k i, ?_, hd⟩⟩
        simp only [List.mem_flatMap, List.mem_map, List.mem_singleton]
        exact ⟨i, hi, d0, rfl, rfl⟩
      · rintro ⟨d0, hd0, hd⟩
        obtain ⟨d1, hd1, hd'⟩ := (mem_orQueryGo rest _ d).1 hd
        simp only [List.mem_flatMap, List.mem_map, List.mem_singleton] at hd1
        obtain ⟨i, hi, a, ha, rfl⟩ := hd1
        subst ha
        refine ⟨_, ?_, hd'⟩
        simp only [List.mem_flatMap, List.mem_map]
        exact ⟨i, hi, a, hd0, rfl⟩
    · exact mem_orQueryGo rest result d

/-- the condition a result value must satisfy w.r.t. the original value -/
def orQueryOk (p : (Str × Str) × (Str × Str)) : Prop :=
  if Str.hasChar ',' p.1.2 then p.2.2 ∈ Str.splitOn ',' p.1.2 else p.2.2 = p.1.2

/-- one turn of the loop, for both kinds of value: the value of `k` becomes some good `i` -/
theorem orQueryGo_cons_mem (k v : Str) (rest pre : Dict) (d : Dict) (hk : k ∉ pre.map (·.1)) :
    d ∈ orQueryGo ((k, v) :: rest) [pre ++ (k, v) :: rest] ↔
      ∃ i, orQueryOk ((k, v), (k, i)) ∧ d ∈ orQueryGo rest [(pre ++ [(k, i)]) ++ rest] := by
    simp only [orQueryGo]
    split
    · next hc =>
      rw [mem_orQueryGo]
      simp only [List.mem_flatMap, List.mem_map, List.mem_singleton, orQueryOk, hc, if_true]
      constructor
      · rintro ⟨_, ⟨i, hi, _, rfl, rfl⟩, hd⟩
        rw [Dict.set_replace k v i rest pre hk] at hd
        exact ⟨i, hi, by simpa using hd⟩
      · rintro ⟨i, hi, hd⟩
        exact ⟨_, ⟨i, hi, _, rfl, Dict.set_replace k v i rest pre hk⟩, by simpa using hd⟩
    · next hc =>
      simp only [orQueryOk, hc]
      constructor
      · intro hd
        exact ⟨v, rfl, by simpa using hd⟩
      · rintro ⟨i, rfl, hd⟩
        simpa using hd

/-- `pre` is the part of the dictionary the loop has passed: it rewrites the value of a key in
    place in the WHOLE dictionary, so the induction carries it along -/
theorem mem_orQueryGo_append : ∀ (items pre : Dict), ((pre ++ items).map (·.1)).Nodup →
    ∀ d : Dict, d ∈ orQueryGo items [pre ++ items] ↔
      ∃ d', d = pre ++ d' ∧ d'.map (·.1) = items.map (·.1) ∧ ∀ p ∈ items.zip d', orQueryOk p
  | [], pre, _, d => by
    simp only [orQueryGo, List.append_nil, List.mem_singleton, List.map_nil, List.map_eq_nil_iff,
      List.zip_nil_left, List.not_mem_nil, false_imp_iff, implies_true, and_true]
    constructor
    · intro h; exact ⟨[], by simp [h], rfl⟩
    · rintro ⟨d', rfl, rfl⟩; simp
  | (k, v) :: rest, pre, hnd, d => by
    have hk : k ∉ pre.map (·.1) := by
      simp only [List.map_append, List.map_cons] at hnd
      have := (List.nodup_append.1 hnd).2.2
      intro hkp
      exact this k hkp k (by simp) rfl
    have hnd' : ∀ i : Str, (((pre ++ [(k, i)]) ++ rest).map (·.1)).Nodup := by
      intro i; simpa using hnd
    have key : ∀ i : Str, (d ∈ orQueryGo rest [(pre ++ [(k, i)]) ++ rest]) ↔
        ∃ d'', d = pre ++ (k, i) :: d'' ∧ d''.map (·.1) = rest.map (·.1) ∧
          ∀ p ∈ rest.zip d'', orQueryOk p := by
      intro i
      rw [mem_orQueryGo_append rest (pre ++ [(k, i)]) (hnd' i) d]
      simp
    rw [orQueryGo_cons_mem k v rest pre d hk]
    constructor
    · rintro ⟨i, hi, hd⟩
      obtain ⟨d'', rfl, hkeys, hok⟩ := (key i).1 hd
      refine ⟨(k, i) :: d'', rfl, by simp [hkeys], ?_⟩
      intro p hp
      simp only [List.zip_cons_cons, List.mem_cons] at hp
      rcases hp with rfl | hp
      · exact hi
      · exact hok p hp
    · rintro ⟨d', rfl, hkeys, hok⟩
      cases d' with
      | nil => simp at hkeys
      | cons q d'' =>
        obtain ⟨k', i⟩ := q
        simp only [List.map_cons, List.cons.injEq] at hkeys
        obtain ⟨rfl, hkeys⟩ := hkeys
        exact ⟨i, hok ((k', v), (k', i)) (by simp),
          (key i).2 ⟨d'', rfl, hkeys, fun p hp => hok p (by simp [hp])⟩⟩

/-! ### `sortSids` -/

theorem mem_of_mem_sortSids {xs : List Sid} {x : Sid} (h : x ∈ sortSids xs) : x ∈ xs :=
  Lst.mem_of_mem_dedupBy Sid.eqv ((Lst.mem_sortBy _ _ _).1 h)

theorem sortSids_cover (xs : List Sid) (x : Sid) (hx : x ∈ xs) :
    ∃ y ∈ sortSids xs, y.uri = x.uri := by
  obtain ⟨y, hy, hyx⟩ := Lst.dedupBy_cover Sid.eqv (fun a => by simp [Sid.eqv])
    (fun a b c hab hbc => by simp only [Sid.eqv, beq_iff_eq] at *; exact hab.trans hbc) xs x hx
  exact ⟨y, (Lst.mem_sortBy _ _ _).2 hy, by simpa [Sid.eqv] using hyx⟩

/-! ### the shape of a result of `unfold_search` -/

theorem unfoldSearch_inv (c : Ctx) (s : Str) (u e : Bool) (r : List Sid)
    (h : c.unfoldSearch s u e = .ok r) :
    ∃ l, r = (if u then uniquify else id)
      ((sortSids l).filter (fun x => x.typed && !Str.hasChar '?' x.string)) := by
  unfold unfoldSearch at h
  split at h
  · cases h
  · next xs hxs =>
    cases h
    suffices ∃ l, xs = sortSids l by
      obtain ⟨l, rfl⟩ := this
      exact ⟨l, by cases u <;> rfl⟩
    unfold applyUnfolders at hxs
    -- the four stages may fail; then the result is sorted, extrapolated or not
    iterate 4 (split at hxs; (· cases hxs))
    split at hxs
    · cases hxs; exact ⟨_, rfl⟩
    · split at hxs
      · cases hxs
      · cases hxs; exact ⟨_, rfl⟩

end Ctx
