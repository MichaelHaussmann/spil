/-
  Spil.Lemmas.Upd — helper lemmas for C04 / C14: the overlay loops of `query_helper.update` and
  `get_with`, and the `to_string` / `to_dict` round trip.
-/
import Spil.Lemmas.Hier

namespace UpdL

open Spec SidL HierL

/-! ### the overlay of `query_helper.update` -/

section step

variable (data : Dict) (k v : Str)

/-- one turn of the loop: an optional value (`~v`) only replaces, any other value is set -/
def updateStep : Dict :=
  if data.hasKey k || !Str.startsWith v ['~'] then
    Dict.set data k (if Str.startsWith v ['~'] then v.filter (· != '~') else v) else data

theorem updateGo_cons (rest : Dict) :
    Query.updateGo data ((k, v) :: rest) = Query.updateGo (updateStep data k v) rest := by
  simp only [Query.updateGo, updateStep]; split <;> rfl

theorem updateStep_get_self :
    (updateStep data k v).get k =
      if Str.startsWith v ['~'] then (if data.hasKey k then some (v.filter (· != '~')) else none)
      else some v := by
  unfold updateStep
  cases Str.startsWith v ['~'] <;> cases h : data.hasKey k <;>
    simp [Dict.get_set, Dict.hasKey_false_get, h]

theorem updateStep_of_ne (k' : Str) (h : k' ≠ k) :
    (updateStep data k v).get k' = data.get k' ∧ (updateStep data k v).hasKey k' = data.hasKey k' := by
  unfold updateStep; split <;> simp [Dict.get_set, Dict.hasKey_set, h]

theorem updateStep_hasKey (k' : Str) (h : data.hasKey k' = true) :
    (updateStep data k v).hasKey k' = true := by
  unfold updateStep; split
  · rw [Dict.hasKey_set, h, Bool.or_true]
  · exact h

theorem updateStep_nodup (h : (data.map (·.1)).Nodup) : ((updateStep data k v).map (·.1)).Nodup := by
  unfold updateStep; split
  · exact Dict.set_nodup _ _ _ h
  · exact h

theorem updateStep_plain (h : Str.startsWith v ['~'] = false) :
    updateStep data k v = Dict.set data k v := by
  simp [updateStep, h]

end step

theorem updateGo_get (nd : Dict) (hn : (nd.map (·.1)).Nodup) : ∀ (data : Dict) (k : Str),
    (Query.updateGo data nd).get k =
      match nd.get k with
      | none => data.get k
      | some v =>
        if Str.startsWith v ['~'] then (if data.hasKey k then some (v.filter (· != '~')) else none)
        else some v := by
  induction nd with
  | nil => intro data k; rfl
  | cons p nd ih =>
    obtain ⟨k0, v0⟩ := p
    simp only [List.map_cons, List.nodup_cons] at hn
    intro data k
    rw [updateGo_cons, ih hn.2, Dict.get_cons]
    by_cases hk : k = k0
    · subst hk
      rw [(Dict.get_eq_none_iff nd k).mpr hn.1, if_pos rfl]
      exact updateStep_get_self data k v0
    · rw [if_neg hk, (updateStep_of_ne data k0 v0 k hk).1, (updateStep_of_ne data k0 v0 k hk).2]

theorem updateGo_hasKey : ∀ (nd data : Dict) (k : Str), data.hasKey k = true →
    (Query.updateGo data nd).hasKey k = true
  | [], _, _, h => h
  | (k0, v0) :: nd, data, k, h => by
    rw [updateGo_cons]; exact updateGo_hasKey nd _ k (updateStep_hasKey data k0 v0 k h)

theorem updateGo_nodup : ∀ (nd data : Dict), (data.map (·.1)).Nodup →
    ((Query.updateGo data nd).map (·.1)).Nodup
  | [], _, h => h
  | (k0, v0) :: nd, data, h => by
    rw [updateGo_cons]; exact updateGo_nodup nd _ (updateStep_nodup data k0 v0 h)

/-! ### the keyword overlay of `get_with` -/

/-- the first loop of `get_with`: a keyword given as `None` pops its key -/
def popped (fields : Dict) (kw : List (Str × Option Str)) : Dict :=
  kw.foldl (fun d (p : Str × Option Str) => if p.2.isNone then Dict.erase d p.1 else d) fields

/-- the keywords that carry a value, which `get_with` hands to `dict.update` -/
def kwPairs (kw : List (Str × Option Str)) : List (Str × Str) :=
  kw.filterMap (fun (p : Str × Option Str) => p.2.map (fun v => (p.1, v)))

theorem overlayKw_eq (fields : Dict) (kw : List (Str × Option Str)) :
    Ctx.overlayKw fields kw = Dict.update (popped fields kw) (kwPairs kw) := rfl

theorem overlayKw_one (fields : Dict) (key v : Str) :
    Ctx.overlayKw fields [(key, some v)] = Dict.set fields key v := by
  simp [Ctx.overlayKw, Dict.update]

theorem popped_get (kw : List (Str × Option Str)) (k : Str) : ∀ (d : Dict),
    (popped d kw).get k = if (k, none) ∈ kw then none else d.get k := by
  induction kw with
  | nil => intro d; simp [popped]
  | cons p kw ih =>
    obtain ⟨k0, o⟩ := p
    intro d
    simp only [popped, List.foldl_cons] at ih ⊢
    simp only [ih, List.mem_cons, Prod.mk.injEq]
    cases o with
    | none =>
      simp only [Option.isNone_none, if_true, Dict.get_erase, and_true]
      by_cases h : k = k0 <;> simp [h]
    | some v => simp

theorem popped_nodup (kw : List (Str × Option Str)) : ∀ (d : Dict), (d.map (·.1)).Nodup →
    ((popped d kw).map (·.1)).Nodup := by
  induction kw with
  | nil => intro d h; exact h
  | cons p kw ih =>
    intro d h
    simp only [popped, List.foldl_cons] at ih ⊢
    apply ih
    split
    · exact Dict.erase_nodup _ _ h
    · exact h

theorem kwPairs_keys_sub (kw : List (Str × Option Str)) :
    ((kwPairs kw).map (·.1)).Sublist (kw.map (·.1)) := by
  induction kw with
  | nil => simp [kwPairs]
  | cons p kw ih =>
    obtain ⟨k0, o⟩ := p
    simp only [kwPairs] at ih ⊢
    cases o with
    | none => simpa [List.filterMap_cons] using ih.trans (List.sublist_cons_self _ _)
    | some v => simpa [List.filterMap_cons] using ih

theorem kwPairs_lookup (kw : List (Str × Option Str)) (hn : (kw.map (·.1)).Nodup) (k : Str) :
    (kwPairs kw).lookup k = (kw.lookup k).join := by
  induction kw with
  | nil => simp [kwPairs]
  | cons p kw ih =>
    obtain ⟨k0, o⟩ := p
    simp only [List.map_cons, List.nodup_cons] at hn
    have ih' := ih hn.2
    simp only [kwPairs, List.filterMap_cons, List.lookup_cons] at ih' ⊢
    by_cases h : k = k0
    · -- the head decides; a popped keyword does not occur further down (distinct keywords)
      subst h
      have : kw.lookup k = none := (Lst.lookup_eq_none_iff kw k).mpr hn.1
      cases o <;> simp [ih', this]
    · have hb : (k == k0) = false := by simpa using h
      cases o <;> simp [List.lookup_cons, ih', hb]

theorem overlayKw_get (fields : Dict) (kw : List (Str × Option Str)) (hn : (kw.map (·.1)).Nodup)
    (k : Str) :
    (Ctx.overlayKw fields kw).get k =
      match kw.lookup k with
      | some (some v) => some v
      | some none => none
      | none => fields.get k := by
  rw [overlayKw_eq, Dict.get_update_of_nodup _ (hn.sublist (kwPairs_keys_sub kw)), kwPairs_lookup kw hn, popped_get]
  cases hl : kw.lookup k with
  | none =>
    have : (k, (none : Option Str)) ∉ kw := fun hm =>
      (Lst.lookup_eq_none_iff kw k).mp hl (List.mem_map.mpr ⟨_, hm, rfl⟩)
    simp [this]
  | some o =>
    cases o with
    | none => simp [Lst.lookup_mem kw k none hl]
    | some v => simp

theorem overlayKw_nodup (fields : Dict) (kw : List (Str × Option Str)) (hf : (fields.map (·.1)).Nodup) :
    ((Ctx.overlayKw fields kw).map (·.1)).Nodup := by
  rw [overlayKw_eq]
  exact Dict.update_nodup _ _ (popped_nodup kw fields hf)

/-! ### `to_string` / `to_dict` round trip -/

/-- without optional values the overlay loop is `dict.update` -/
theorem updateGo_eq_update : ∀ (nd : Dict), (∀ p ∈ nd, Str.startsWith p.2 ['~'] = false) →
    ∀ (data : Dict), Query.updateGo data nd = Dict.update data nd
  | [], _, _ => rfl
  | (k0, v0) :: nd, h, data => by
    rw [updateGo_cons, updateStep_plain data k0 v0 (h (k0, v0) (by simp))]
    exact updateGo_eq_update nd (fun p hp => h p (by simp [hp])) _

theorem cutFragment_id (s : Str) (h : '#' ∉ s) : Query.cutFragment s = s := by
  induction s with
  | nil => rfl
  | cons c cs ih =>
    simp only [List.mem_cons, not_or] at h
    have hb : (c == '#') = false := by simpa using fun e => h.1 e.symm
    simp only [Query.cutFragment, hb, Bool.false_eq_true, if_false, ih h.2]

theorem parsePairs_pieces (d : Dict) (h : ∀ p ∈ d, p.2 ≠ [] ∧ '=' ∉ p.1) :
    Query.parsePairs (d.map (fun p => p.1 ++ '=' :: p.2)) = d := by
  induction d with
  | nil => rfl
  | cons p d ih =>
    obtain ⟨k, v⟩ := p
    obtain ⟨hv, hk⟩ := h (k, v) (by simp)
    simp only at hv hk
    have hve : v.isEmpty = false := by simp [hv]
    simp only [List.map_cons, Query.parsePairs, Str.split1_some '=' k v hk, hve, Bool.false_eq_true,
      if_false, ih (fun p hp => h p (by simp [hp]))]

/-- the characters a key or value must not contain to go through `to_string` / `to_dict` unchanged:
    '&' '=' are the separators, '#' starts the fragment `to_dict` cuts, '?' is read as '&',
    '%' '+' (escapes) are outside the model, ' ' is removed by `to_string`, tab / CR / LF by
    `urlsplit`, '~' marks an optional value -/
def special : List Char := ['&', '=', '#', '?', '%', '+', ' ', '\t', '\r', '\n', '~']

/-- those among them that `to_dict` rewrites or removes before it splits at '&' -/
def rewritten : List Char := ['#', '?', '%', '+', '\t', '\r', '\n']

theorem rewritten_special : ∀ x ∈ rewritten, x ∈ special ∧ x ≠ '=' ∧ x ≠ '&' := by decide

def plain (ch : Char) : Prop := ch ∉ special

theorem not_mem_of_plain {s : Str} (h : ∀ ch ∈ s, plain ch) {x : Char} (hx : x ∈ special) : x ∉ s :=
  fun hm => h x hm hx

/-- the `key=value` pieces `to_string` joins with '&' -/
def pieces (d : Dict) : List Str := d.map (fun p => p.1 ++ '=' :: p.2)

theorem toDict_clean (q : Str) (hq : ∀ x ∈ rewritten, x ∉ q)
    (hhead : ∃ c r, q = c :: r ∧ c ≠ '&') (hend : Str.endsWith q ['&'] = false) :
    Query.toDict q = .ok (Dict.ofPairs (Query.parsePairs (Str.splitOn '&' q))) := by
  have hn : ∀ x ∈ rewritten, ∀ c ∈ q, c ≠ x := fun x hx c hc e => hq x hx (e ▸ hc)
  have hoom : Query.outOfModel q = false := by
    rw [Query.outOfModel, List.any_eq_false]
    intro c hc
    simp [hn '%' (by decide) c hc, hn '+' (by decide) c hc]
  have hmap : q.map (fun c => if c == '?' then '&' else c) = q := by
    conv => rhs; rw [← List.map_id q]
    exact List.map_congr_left (fun c hc => by simp [hn '?' (by decide) c hc])
  have hfilt : q.filter (fun c => c != '\t' && c != '\r' && c != '\n') = q :=
    List.filter_eq_self.2 (fun c hc => by
      simp [hn '\t' (by decide) c hc, hn '\r' (by decide) c hc, hn '\n' (by decide) c hc])
  obtain ⟨c0, r0, rfl, hc0⟩ := hhead
  unfold Query.toDict
  simp only [hoom, Bool.false_eq_true, if_false, hmap]
  split
  · next heq => simp at heq; exact absurd heq.1 hc0
  · simp only [hend, Bool.false_eq_true, if_false, hfilt, cutFragment_id _ (hq '#' (by decide))]

section plainFields

variable (d : Dict) (hv : ∀ p ∈ d, p.2 ≠ [] ∧ p.1 ≠ [] ∧ ∀ ch ∈ p.1 ++ p.2, plain ch)

include hv

theorem plain_of_mem_key : ∀ p ∈ d, ∀ ch ∈ p.1, plain ch := fun p hp ch hc => (hv p hp).2.2 ch (by simp [hc])

theorem plain_of_mem_val : ∀ p ∈ d, ∀ ch ∈ p.2, plain ch := fun p hp ch hc => (hv p hp).2.2 ch (by simp [hc])

theorem not_mem_piece : ∀ p ∈ d, ∀ x ∈ special, x ≠ '=' → x ∉ p.1 ++ '=' :: p.2 := by
  intro p hp x hx hne hm
  rcases List.mem_append.mp hm with h | h
  · exact not_mem_of_plain (plain_of_mem_key d hv p hp) hx h
  · rcases List.mem_cons.mp h with h | h
    · exact hne h
    · exact not_mem_of_plain (plain_of_mem_val d hv p hp) hx h

theorem toString_plain : Query.toString d = Str.joinWith '&' (pieces d) := by
  unfold Query.toString pieces
  congr 1
  apply List.map_congr_left
  rintro ⟨k, v⟩ hp
  simp only [Query.noSpace,
    Str.filter_ne_self k ' ' (not_mem_of_plain (plain_of_mem_key d hv _ hp) (by decide)),
    Str.filter_ne_self v ' ' (not_mem_of_plain (plain_of_mem_val d hv _ hp) (by decide))]

theorem toDict_toString (hne : d ≠ []) (hnd : (d.map (·.1)).Nodup) :
    Query.toDict (Query.toString d) = .ok d := by
  have hpne : pieces d ≠ [] := by simpa [pieces] using hne
  have hpc : ∀ piece ∈ pieces d, piece ≠ [] ∧ '&' ∉ piece := by
    intro piece hp
    obtain ⟨p, hpd, rfl⟩ := List.mem_map.mp hp
    exact ⟨by simp, not_mem_piece d hv p hpd '&' (by decide) (by decide)⟩
  have hch : ∀ x ∈ rewritten, x ∉ Str.joinWith '&' (pieces d) := by
    intro x hx hm
    obtain ⟨hs, heq, hamp⟩ := rewritten_special x hx
    obtain ⟨_, hp, h⟩ := (Str.mem_joinWith '&' x _ hamp).1 hm
    obtain ⟨p, hpd, rfl⟩ := List.mem_map.mp hp
    exact not_mem_piece d hv p hpd x hs heq h
  have hparse : Query.parsePairs (pieces d) = d :=
    parsePairs_pieces _ (fun p hp =>
      ⟨(hv p hp).1, not_mem_of_plain (plain_of_mem_key _ hv p hp) (by decide : '=' ∈ special)⟩)
  have hh := hpc _ (List.head_mem hpne)
  have hl := hpc _ (List.getLast_mem hpne)
  -- nothing to rewrite and no '&' at either end: `to_dict` is `ofPairs ∘ parsePairs ∘ splitOn '&'`
  rw [toString_plain d hv, toDict_clean _ hch (Str.joinWith_head_ne '&' _ hpne hh.1 hh.2)
      (Str.endsWith_joinWith '&' _ hpne hl.1 hl.2),
    Str.split_join _ _ hpne (fun piece hp => (hpc piece hp).2), hparse, Dict.ofPairs_self _ hnd]

end plainFields

/-- no value is optional here: none starts with '~' -/
theorem update_toString (d : Dict) (hne : d ≠ []) (hnd : (d.map (·.1)).Nodup)
    (hv : ∀ p ∈ d, p.2 ≠ [] ∧ p.1 ≠ [] ∧ ∀ ch ∈ p.1 ++ p.2, plain ch) :
    Query.update [] (Query.toString d) = .ok d := by
  unfold Query.update
  rw [toDict_toString d hv hne hnd]
  simp only
  rw [updateGo_eq_update]
  · exact congrArg Except.ok (Dict.ofPairs_self _ hnd)
  · intro p hp
    obtain ⟨hv1, _, hpl⟩ := hv p hp
    cases hp2 : p.2 with
    | nil => exact absurd hp2 hv1
    | cons ch v' =>
      have hne : ('~' == ch) = false := by
        simpa using fun e : '~' = ch => hpl ch (by simp [hp2]) (e ▸ by decide)
      simp [Str.startsWith, List.isPrefixOf, hne]

theorem toDict_nodup (q : Str) (nd : Dict) (h : Query.toDict q = .ok nd) : (nd.map (·.1)).Nodup := by
  unfold Query.toDict at h
  split at h
  · cases h
  · simp only [Except.ok.injEq] at h
    subst h
    exact Dict.ofPairs_nodup _

/-! ### `Sid(query=q)` -/

/-- `Sid(query=q)` is `apply_query` on the empty string with no type and no fields -/
theorem sidOfQuery_eq (c : Ctx) (q : Str) (hq : q ≠ []) :
    c.sidOfQuery q = c.applyQuery [] q [] [] := by
  have hqe : q.isEmpty = false := by simp [hq]
  have hs1 : Str.split1 '?' ('?' :: q) = ([], some q) := by simp [Str.split1]
  have hs2 : Str.split1 ':' [] = ([], none) := rfl
  simp only [Ctx.sidOfQuery, hqe, Bool.false_eq_true, if_false, Ctx.sidToSid, hs1, hs2,
    SidL.sidToDict_nil, Option.map_none, Option.getD_none]
  simp

/-- a '/'-free search symbol inside the '/'-joined values lies inside one value, hence inside one
    `key=value` piece of the query text -/
theorem isSearchStr_pieces (c : Ctx) (hsym : ∀ sym ∈ c.cfg.sid.searchSymbols, '/' ∉ sym) (d : Dict)
    (hd : d ≠ []) (h : c.isSearchStr (Str.joinWith '/' (d.map (·.2))) = true) :
    c.isSearchStr ([] ++ '?' :: Str.joinWith '&' (pieces d)) = true := by
  unfold Ctx.isSearchStr at h ⊢
  rw [List.any_eq_true] at h ⊢
  obtain ⟨sym, hsm, hin⟩ := h
  obtain ⟨v, hv, hvin⟩ := Str.isInfix_joinWith_sep '/' sym (hsym sym hsm) _ (by simpa using hd) hin
  obtain ⟨p, hp, rfl⟩ := List.mem_map.mp hv
  refine ⟨sym, hsm, ?_⟩
  have h3 : Str.isInfix sym (p.1 ++ '=' :: p.2) = true := by
    apply Str.isInfix_append_left
    simp only [Str.isInfix, hvin, Bool.or_true]
  have h4 : Str.isInfix sym (Str.joinWith '&' (pieces d)) = true :=
    Str.isInfix_joinWith_of_mem '&' sym _ _
      (List.mem_map.mpr ⟨p, hp, rfl⟩ : p.1 ++ '=' :: p.2 ∈ pieces d) h3
  simp only [List.nil_append, Str.isInfix, h4, Bool.or_true]

end UpdL
