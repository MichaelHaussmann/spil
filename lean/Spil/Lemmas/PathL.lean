/-
  Spil.Lemmas.PathL — the path functions as the path theorems (C05, C06) use them: which
  exceptions the resolver / formatter can raise and when, and one case lemma per path function
  with the inversions that follow from it.
-/
import Spil.Model.Path
import Spil.Lemmas.Sid
import Spil.Lemmas.MapE

/-! ### the value passes of `path_to_dict` (`Ctx.mapToSid`) and `dict_to_path` (`Ctx.pathData`)

They are in the namespace `Det` because the `Det*` / `Excl*` files speak of `g0`, `g1`, `g2` unqualified. -/

namespace Det

/-- `get_key`: the first path word listed for `v`, or `v` itself when none is -/
theorem getKey_cases (m : List (Str × Str)) (v : Str) :
    (∃ k, (k, v) ∈ m ∧ Ctx.getKey m v = k) ∨ ((∀ pv ∈ m, pv.2 ≠ v) ∧ Ctx.getKey m v = v) := by
  unfold Ctx.getKey
  cases hf : m.find? (·.2 == v) with
  | some kv =>
    obtain ⟨k, v'⟩ := kv
    have hv : v' = v := by simpa using List.find?_some hf
    subst hv
    exact Or.inl ⟨k, List.mem_of_find?_eq_some hf, rfl⟩
  | none =>
    refine Or.inr ⟨fun pv hpv => ?_, rfl⟩
    simpa using List.find?_eq_none.mp hf pv hpv

theorem getKey_of_not_mem (m : List (Str × Str)) (u : Str) (h : ∀ pv ∈ m, pv.2 ≠ u) :
    Ctx.getKey m u = u := by
  rcases getKey_cases m u with ⟨k, hk, _⟩ | ⟨_, h'⟩
  · exact absurd rfl (h _ hk)
  · exact h'

/-- path value → sid value: the mapping loop of `path_to_dict` (`Ctx.mapToSid`) -/
def g0 (pc : PathConf) (k v : Str) : Str :=
  match pc.mapping.lookup k with
  | some m => if m.isEmpty then v else (m.lookup v).getD v
  | none => v

/-- first loop of `dict_to_path` (`Ctx.pathData`): the default of `k` replaces an empty value -/
def g1 (pc : PathConf) (k v : Str) : Str :=
  match pc.defaults.lookup k with
  | some d => if v.isEmpty && !d.isEmpty then d else v
  | none => v

/-- sid value → path value: second loop of `dict_to_path`, the reverse mapping `get_key` -/
def g2 (pc : PathConf) (k v : Str) : Str :=
  match pc.mapping.lookup k with
  | some m => if v.isEmpty || m.isEmpty then v else Ctx.getKey m v
  | none => v

/-- third loop of `dict_to_path`, for one template key `k`: a missing key gets its non-empty default -/
def gMissing (pc : PathConf) (d : Dict) (k : Str) : Dict :=
  match pc.defaults.lookup k with
  | some dv => if !d.hasKey k && !dv.isEmpty then d ++ [(k, dv)] else d
  | none => d

theorem g1_of_ne (pc : PathConf) (k v : Str) (hv : v ≠ []) : g1 pc k v = v := by
  unfold g1
  split
  · simp [hv]
  · rfl

theorem g1_of_no_default (pc : PathConf) (k v : Str) (h : pc.defaults.lookup k = none) :
    g1 pc k v = v := by
  simp [g1, h]

theorem g2_cases (pc : PathConf) (k v : Str) :
    g2 pc k v = v ∨
      ∃ m pv, pc.mapping.lookup k = some m ∧ pv ∈ m ∧ pv.2 = v ∧ g2 pc k v = pv.1 := by
  unfold g2
  split
  · next m hm =>
    split
    · exact Or.inl rfl
    · rcases getKey_cases m v with ⟨k', hk', he⟩ | ⟨_, he⟩
      · exact Or.inr ⟨m, (k', v), hm, hk', rfl, he⟩
      · exact Or.inl he
  · exact Or.inl rfl

theorem g0_of_no_mapping (pc : PathConf) (k v : Str)
    (h : ∀ m, pc.mapping.lookup k = some m → m = []) : g0 pc k v = v := by
  unfold g0
  split
  · next m hm => simp [h m hm]
  · rfl

theorem g2_of_no_mapping (pc : PathConf) (k v : Str)
    (h : ∀ m, pc.mapping.lookup k = some m → m = []) : g2 pc k v = v := by
  unfold g2
  split
  · next m hm => simp [h m hm]
  · rfl

/-- `dict_to_path`'s three loops: two key-preserving value maps and a fold -/
theorem pathData_eq (pc : PathConf) (data : Dict) (keys : List Str) :
    Ctx.pathData pc data keys =
      keys.foldl (gMissing pc)
        ((data.map (fun p => (p.1, g1 pc p.1 p.2))).map (fun p => (p.1, g2 pc p.1 p.2))) := by
  simp only [Ctx.pathData]
  congr 3 <;> funext ⟨k, v⟩ <;> simp only [g1, g2] <;> split <;>
    simp only [*, ← apply_ite (Prod.mk k)]

theorem mapToSid_eq (pc : PathConf) (d : Dict) :
    Ctx.mapToSid pc d = d.map (fun p => (p.1, g0 pc p.1 p.2)) := by
  unfold Ctx.mapToSid
  congr 1 <;> funext ⟨k, v⟩ <;> simp only [g0] <;> split <;> simp only [*, ← apply_ite (Prod.mk k)]

theorem mapToSid_get (pc : PathConf) (d0 : Dict) (k : Str) :
    (Ctx.mapToSid pc d0).get k = (d0.get k).map (g0 pc k) := by
  rw [mapToSid_eq]; exact Lst.lookup_map_snd (g0 pc) d0 k

theorem mapToSid_keys (pc : PathConf) (d : Dict) : (Ctx.mapToSid pc d).map (·.1) = d.map (·.1) := by
  rw [mapToSid_eq, List.map_map]; rfl

def defaultOf (pc : PathConf) (k : Str) : Option Str :=
  (pc.defaults.lookup k).filter (fun dv => !dv.isEmpty)

theorem gMissing_get (pc : PathConf) (d : Dict) (k' k : Str) :
    (gMissing pc d k').get k = (d.get k).or (if k = k' then defaultOf pc k else none) := by
  unfold gMissing defaultOf
  by_cases hk : k = k'
  · subst hk
    cases hl : pc.defaults.lookup k with
    | none => simp
    | some dv =>
      have hh : d.hasKey k = (d.get k).isSome := Dict.hasKey_eq_isSome d k
      cases hg : d.get k with
      | some v => simp [hh, hg]
      | none =>
        rw [hg] at hh
        have hg' : List.lookup k d = none := hg
        cases he : dv.isEmpty <;>
          simp [hh, he, Dict.get, List.lookup_append, hg', Option.filter_some]
  · have hb : (k == k') = false := by simpa using hk
    simp only [hk, if_false, Option.or_none]
    split
    · split
      · simp [Dict.get, List.lookup_append, List.lookup_cons, hb]
      · rfl
    · rfl

theorem foldl_gMissing_get (pc : PathConf) (k : Str) : ∀ (keys : List Str) (d : Dict),
    (keys.foldl (gMissing pc) d).get k =
      (d.get k).or (if k ∈ keys then defaultOf pc k else none)
  | [], d => by simp
  | k' :: keys, d => by
    rw [List.foldl_cons, foldl_gMissing_get pc k keys, gMissing_get]
    by_cases hk : k = k'
    · subst hk; by_cases hm : k ∈ keys <;> simp [hm, Option.or_assoc]
    · simp [hk]

/-- what `dict_to_path` hands to the template for a key -/
theorem pathData_get (pc : PathConf) (data : Dict) (keys : List Str) (k : Str) :
    (Ctx.pathData pc data keys).get k =
      ((data.get k).map (fun v => g2 pc k (g1 pc k v))).or
        (if k ∈ keys then defaultOf pc k else none) := by
  rw [pathData_eq, foldl_gMissing_get, Dict.get_map_kv (g2 pc) _ (fun _ => rfl),
    Dict.get_map_kv (g1 pc) _ (fun _ => rfl), Option.map_map]
  rfl

/-- a key the dictionary has reads the same whatever the template keys -/
theorem pathData_get_of_some (pc : PathConf) (data : Dict) (keys : List Str) (k v : Str)
    (h : data.get k = some v) :
    (Ctx.pathData pc data keys).get k = some (g2 pc k (g1 pc k v)) := by
  rw [pathData_get, h]; rfl

theorem pathData_get_inv (pc : PathConf) (data : Dict) (keys : List Str) (k v : Str)
    (h : (Ctx.pathData pc data keys).get k = some v) :
    (∃ v0, data.get k = some v0 ∧ v = g2 pc k (g1 pc k v0)) ∨ pc.defaults.lookup k = some v := by
  rw [pathData_get] at h
  cases hd : data.get k with
  | some v0 => rw [hd] at h; exact Or.inl ⟨v0, rfl, by simpa using h.symm⟩
  | none =>
    rw [hd] at h
    simp only [Option.map_none, Option.none_or] at h
    split at h
    · simp only [defaultOf, Option.filter_eq_some_iff] at h; exact Or.inr h.1
    · cases h

theorem pathData_keys_sub (pc : PathConf) (data : Dict) (keys : List Str) (k : Str)
    (h : k ∈ (Ctx.pathData pc data keys).map (·.1)) : k ∈ data.map (·.1) ∨ k ∈ keys := by
  rw [← Dict.hasKey_iff_mem, Dict.hasKey_eq_isSome, pathData_get] at h
  cases hd : data.get k with
  | some v0 => exact Or.inl ((Dict.get_isSome_iff data k).1 (by rw [hd]; rfl))
  | none =>
    rw [hd] at h
    by_cases hm : k ∈ keys
    · exact Or.inr hm
    · simp [hm] at h

end Det

namespace PathL

/-! ### `resolve_*` / `format_*` raise only ResolvaException, and only with the duplicate check on -/

/- Naming: `f_err` says WHICH exception `f` can raise; `f_error_inv` says WHERE an exception of `f`
   came from (the inner call that raised it, with what that call was given); `f_inv` says what a
   successful result of `f` tells; `f_of_…` is a sufficient condition for a result of `f`. -/

theorem resolveOne_error_inv (e : Env) (r : Resolver) (s label : Str) (x : Err)
    (h : Resolver.resolveOne e r s label = .error x) :
    ∃ t, r.lookup label = some t ∧ Resolver.resolveTpl e r.checkDup t s = .error x := by
  unfold Resolver.resolveOne at h
  split at h
  · simp at h
  · split at h
    · simp at h
    · next t ht => exact ⟨t, ht, h⟩

theorem resolveOne_err (e : Env) (r : Resolver) (s label : Str) (x : Err)
    (h : Resolver.resolveOne e r s label = .error x) : x = .resolva ∧ r.checkDup = true := by
  obtain ⟨t, _, ht⟩ := resolveOne_error_inv e r s label x h
  exact SidL.resolveTpl_err _ _ _ _ _ ht

theorem resolveFirstGo_err (e : Env) (cd : Bool) (s : Str) (ts : List (Str × Template)) (x : Err)
    (h : Resolver.resolveFirstGo e cd s ts = .error x) : x = .resolva ∧ cd = true := by
  induction ts with
  | nil => simp [Resolver.resolveFirstGo] at h
  | cons p ts ih =>
    obtain ⟨l, t⟩ := p
    simp only [Resolver.resolveFirstGo] at h
    split at h
    · next hm => cases h; exact SidL.resolveTpl_err _ _ _ _ _ hm
    · simp at h
    · exact ih h

theorem resolveFirst_err (e : Env) (r : Resolver) (s : Str) (x : Err)
    (h : Resolver.resolveFirst e r s = .error x) : x = .resolva ∧ r.checkDup = true := by
  unfold Resolver.resolveFirst at h
  split at h
  · simp at h
  · exact resolveFirstGo_err _ _ _ _ _ h

theorem resolveFirstGo_inv (e : Env) (cd : Bool) (s : Str) : ∀ (ts : List (Str × Template))
    (l : Str) (d : Dict), Resolver.resolveFirstGo e cd s ts = .ok (some (l, d)) →
    ∃ t, (l, t) ∈ ts ∧ Resolver.resolveTpl e cd t s = .ok (some d)
  | [], l, d, h => by simp [Resolver.resolveFirstGo] at h
  | (l', t') :: ts, l, d, h => by
    simp only [Resolver.resolveFirstGo] at h
    split at h
    · simp at h
    · next d' hr =>
      simp only [Except.ok.injEq, Option.some.injEq, Prod.mk.injEq] at h
      obtain ⟨rfl, rfl⟩ := h
      exact ⟨t', by simp, hr⟩
    · obtain ⟨t, ht, hr⟩ := resolveFirstGo_inv e cd s ts l d h
      exact ⟨t, by simp [ht], hr⟩

theorem resolveFirst_inv (e : Env) (r : Resolver) (s l : Str) (d : Dict)
    (h : Resolver.resolveFirst e r s = .ok (some (l, d))) :
    ∃ t, (l, t) ∈ r.templates ∧ Resolver.resolveTpl e r.checkDup t s = .ok (some d) := by
  unfold Resolver.resolveFirst at h
  split at h
  · simp at h
  · exact resolveFirstGo_inv _ _ _ _ _ _ h

theorem formatTpl_error_inv (e : Env) (r : Resolver) (label : Str) (t : Template) (data : Dict) (x : Err)
    (h : Resolver.formatTpl e r label t data = .error x) :
    Dict.keysEq data (Template.keys t) = true ∧ ∃ w, Template.format t data = some w ∧
      Resolver.resolveOne e r w label = .error x := by
  unfold Resolver.formatTpl at h
  split at h
  · simp at h
  · next hk =>
    have hk : Dict.keysEq data (Template.keys t) = true := by simpa using hk
    obtain ⟨w, hf⟩ := SidL.format_some_of_keysEq t data hk
    rw [hf] at h
    simp only at h
    split at h
    · next hm => cases h; exact ⟨hk, w, hf, hm⟩
    · simp at h
    · simp at h

theorem formatTpl_err (e : Env) (r : Resolver) (label : Str) (t : Template) (data : Dict) (x : Err)
    (h : Resolver.formatTpl e r label t data = .error x) : x = .resolva ∧ r.checkDup = true := by
  obtain ⟨_, w, _, hm⟩ := formatTpl_error_inv e r label t data x h
  exact resolveOne_err _ _ _ _ _ hm

theorem formatOne_error_inv (e : Env) (r : Resolver) (data : Dict) (label : Str) (x : Err)
    (h : Resolver.formatOne e r data label = .error x) :
    data ≠ [] ∧ ∃ t w, r.lookup label = some t ∧
      Dict.keysEq data (Template.keys t) = true ∧ Template.format t data = some w ∧
      Resolver.resolveOne e r w label = .error x := by
  unfold Resolver.formatOne at h
  split at h
  · simp at h
  · next hd =>
    split at h
    · simp at h
    · next t ht =>
      obtain ⟨hk, w, hf, hm⟩ := formatTpl_error_inv e r label t data x h
      exact ⟨by simpa using hd, t, w, ht, hk, hf, hm⟩

theorem formatOne_err (e : Env) (r : Resolver) (data : Dict) (label : Str) (x : Err)
    (h : Resolver.formatOne e r data label = .error x) : x = .resolva ∧ r.checkDup = true := by
  obtain ⟨_, _, w, _, _, _, hm⟩ := formatOne_error_inv e r data label x h
  exact resolveOne_err _ _ _ _ _ hm

theorem formatFirstGo_err (e : Env) (r : Resolver) (data : Dict) (ts : List (Str × Template))
    (x : Err) (h : Resolver.formatFirstGo e r data ts = .error x) :
    x = .resolva ∧ r.checkDup = true := by
  induction ts with
  | nil => simp [Resolver.formatFirstGo] at h
  | cons p ts ih =>
    obtain ⟨l, t⟩ := p
    simp only [Resolver.formatFirstGo] at h
    split at h
    · next hm => cases h; exact formatTpl_err _ _ _ _ _ _ hm
    · simp at h
    · exact ih h

theorem formatFirst_err_cd (e : Env) (r : Resolver) (data : Dict) (x : Err)
    (h : Resolver.formatFirst e r data = .error x) : x = .resolva ∧ r.checkDup = true := by
  unfold Resolver.formatFirst at h
  split at h
  · simp at h
  · exact formatFirstGo_err _ _ _ _ _ h

theorem formatFirst_err (e : Env) (r : Resolver) (data : Dict) (x : Err)
    (h : Resolver.formatFirst e r data = .error x) : x = .resolva :=
  (formatFirst_err_cd e r data x h).1

theorem dictToSidStr_total (c : Ctx) (data : Dict) (ty : Str) (hne : data ≠ []) :
    ∃ s, c.dictToSidStr data ty = .ok s := by
  unfold Ctx.dictToSidStr
  simp only [List.isEmpty_iff, hne, if_false]
  split
  · obtain ⟨of, hof⟩ := Except.ok_of_no_error (Resolver.formatFirst c.env c.sidR data)
      (fun x h => Bool.false_ne_true (formatFirst_err_cd _ _ _ _ h).2)
    rw [hof]; exact ⟨_, rfl⟩
  · obtain ⟨of, hof⟩ := Except.ok_of_no_error (Resolver.formatOne c.env c.sidR data ty)
      (fun x h => Bool.false_ne_true (formatOne_err _ _ _ _ _ h).2)
    rw [hof]; exact ⟨_, rfl⟩

/-! ### `str(PurePosixPath(p))` is never empty -/

theorem dot_or_append_ne_nil (R B : Str) :
    (if (R.isEmpty && B.isEmpty) = true then ['.'] else R ++ B) ≠ [] := by
  split
  · simp
  · next h =>
    intro h0
    apply h
    have := List.append_eq_nil_iff.mp h0
    simp [this.1, this.2]

-- stated on variables first: `split` on the unfolded `normalize` would pick the `if` of the root
theorem normalize_ne_nil (p : Str) : PurePath.normalize p ≠ [] := by
  unfold PurePath.normalize
  exact dot_or_append_ne_nil _ _

/-! ### `dict_to_path`, `sid.path`, `path_to_dict`, `path_to_sid` -/

theorem _root_.Conf.pathConf?_mem {cfg : Conf} {name : Option Str} {pc : PathConf}
    (h : cfg.pathConf? name = some pc) : pc ∈ cfg.paths :=
  List.mem_of_find?_eq_some h

/-- `dict_to_path` behind its four guards: the reverse check decides -/
theorem dictToPath_eq (c : Ctx) (pc : PathConf) (data : Dict) (ty : Str) (t : Template) (path : Str)
    (hd : data ≠ []) (ht : pc.resolver.lookup ty = some t) (hne : Template.keys t ≠ [])
    (hke : Dict.keysEq (Ctx.pathData pc data (Template.keys t)) (Template.keys t) = true)
    (hf : Template.format t (Ctx.pathData pc data (Template.keys t)) = some path) :
    c.dictToPath pc data ty =
      (Resolver.formatOne c.env pc.resolver (Ctx.pathData pc data (Template.keys t)) ty).bind
        fun chk => if chk == some path then .ok (PurePath.normalize path) else .error .spil := by
  simp only [Ctx.dictToPath, ht, hke, hf, List.isEmpty_iff, hd, hne, Bool.not_true,
    Bool.false_eq_true, if_false]
  cases Resolver.formatOne c.env pc.resolver (Ctx.pathData pc data (Template.keys t)) ty <;> rfl

/-- `dict_to_path`, every way through it: a SpilException from one of the guards, or the template
    `t` of the type renders `path`, and the reverse check decides -/
theorem dictToPath_cases (c : Ctx) (pc : PathConf) (data : Dict) (ty : Str) :
    c.dictToPath pc data ty = .error .spil ∨
    ∃ t path, pc.resolver.lookup ty = some t ∧ data ≠ [] ∧ Template.keys t ≠ [] ∧
      Dict.keysEq (Ctx.pathData pc data (Template.keys t)) (Template.keys t) = true ∧
      Template.format t (Ctx.pathData pc data (Template.keys t)) = some path ∧
      (c.dictToPath pc data ty = .ok (PurePath.normalize path) ∨
       c.dictToPath pc data ty = .error .resolva ∧
        Resolver.formatOne c.env pc.resolver (Ctx.pathData pc data (Template.keys t)) ty =
          .error .resolva) := by
  by_cases hd : data = []
  · exact Or.inl (by simp [Ctx.dictToPath, hd])
  cases ht : pc.resolver.lookup ty with
  | none => exact Or.inl (by simp [Ctx.dictToPath, ht])
  | some t =>
    by_cases hk : Template.keys t = []
    · exact Or.inl (by simp [Ctx.dictToPath, ht, hk])
    cases hke : Dict.keysEq (Ctx.pathData pc data (Template.keys t)) (Template.keys t) with
    | false => exact Or.inl (by simp [Ctx.dictToPath, ht, hke])
    | true =>
      obtain ⟨path, hf⟩ := SidL.format_some_of_keysEq t _ hke
      have heq := dictToPath_eq c pc data ty t path hd ht hk hke hf
      refine Or.imp_right (fun h => ⟨t, path, rfl, hd, hk, hke, hf, h⟩) ?_
      cases hfo : Resolver.formatOne c.env pc.resolver (Ctx.pathData pc data (Template.keys t)) ty with
      | error x =>
        cases (formatOne_err _ _ _ _ _ hfo).1
        exact Or.inr (Or.inr ⟨by rw [heq, hfo]; rfl, rfl⟩)
      | ok chk =>
        rw [hfo] at heq
        by_cases hc : chk = some path
        · exact Or.inr (Or.inl (by simpa [Except.bind, hc] using heq))
        · exact Or.inl (by simpa [Except.bind, hc] using heq)
theorem sidPath_of_conf (c : Ctx) (cfg : Option Str) (pc : PathConf)
    (hpc : c.cfg.pathConf? cfg = some pc) (x : Sid) (hf : x.fields ≠ []) :
    c.sidPath cfg x = (match c.dictToPath pc x.fields x.type with
      | .ok p => .ok (some p)
      | .error .spil => .ok none
      | .error e => .error e) := by
  simp only [Ctx.sidPath, hf, hpc, List.isEmpty_iff, if_false]
  rfl

/-- an exception of `sid.path(config)` in a configuration that exists is a clash of the reverse
    check on the dictionary `dict_to_path` prepared, which has exactly the keys of the template -/
theorem sidPath_error_inv (c : Ctx) (cfg : Option Str) (pc : PathConf)
    (hpc : c.cfg.pathConf? cfg = some pc) (x : Sid) (e : Err)
    (h : c.sidPath cfg x = .error e) :
    e = .resolva ∧ ∃ t, pc.resolver.lookup x.type = some t ∧
      Dict.keysEq (Ctx.pathData pc x.fields (Template.keys t)) (Template.keys t) = true ∧
      Resolver.formatOne c.env pc.resolver (Ctx.pathData pc x.fields (Template.keys t)) x.type =
        .error .resolva := by
  by_cases hf : x.fields = []
  · simp [Ctx.sidPath, hf] at h
  · rw [sidPath_of_conf c cfg pc hpc x hf] at h
    rcases dictToPath_cases c pc x.fields x.type with
      h' | ⟨t, _, ht, _, _, hke, _, h' | ⟨h', hfo⟩⟩ <;> rw [h'] at h <;> simp at h
    exact ⟨h.symm, t, ht, hke, hfo⟩

theorem sidPath_inv (c : Ctx) (cfg : Option Str) (x : Sid) (p : Str)
    (h : c.sidPath cfg x = .ok (some p)) :
    ∃ pc t raw, c.cfg.pathConf? cfg = some pc ∧ x.fields ≠ [] ∧
      pc.resolver.lookup x.type = some t ∧ Template.keys t ≠ [] ∧
      Dict.keysEq (Ctx.pathData pc x.fields (Template.keys t)) (Template.keys t) = true ∧
      Template.format t (Ctx.pathData pc x.fields (Template.keys t)) = some raw ∧
      p = PurePath.normalize raw := by
  unfold Ctx.sidPath at h
  split at h
  · cases h
  · split at h
    · cases h
    · next pc hpc =>
      rcases dictToPath_cases c pc x.fields x.type with
        h' | ⟨t, raw, ht, hd, hk, hke, hf, h' | ⟨h', _⟩⟩ <;> rw [h'] at h <;> simp at h
      exact ⟨pc, t, raw, hpc, hd, ht, hk, hke, hf, h.symm⟩

theorem sidPath_ne_nil (c : Ctx) (cfg : Option Str) (x : Sid) (p : Str)
    (h : c.sidPath cfg x = .ok (some p)) : p ≠ [] := by
  obtain ⟨_, _, raw, _, _, _, _, _, _, rfl⟩ := sidPath_inv c cfg x p h
  exact normalize_ne_nil raw

theorem sidPath_err (c : Ctx) (cfg : Option Str) (x : Sid) (e : Err)
    (h : c.sidPath cfg x = .error e) : e = .other ∨ e = .resolva := by
  cases hpc : c.cfg.pathConf? cfg with
  | some pc => exact Or.inr (sidPath_error_inv c cfg pc hpc x e h).1
  | none =>
    unfold Ctx.sidPath at h
    split at h <;> simp [hpc] at h
    exact Or.inl h.symm

/-- `key_types` lists the basetype of every label that has a path template (else `path_to_dict`
    raises TypeError) -/
def KeyTypesCover (c : Ctx) (pc : PathConf) : Prop :=
  ∀ label, (pc.resolver.lookup label).isSome →
    (c.cfg.sid.keyTypes.lookup (((Str.splitStr label c.cfg.sid.sep).head?).getD [])).isSome

/-- the fields `path_to_dict` returns for the captured dictionary `d`: the `key_types` keys `ks`
    that the mapped dictionary has, in `key_types` order, with their mapped values -/
def readFields (pc : PathConf) (ks : List Str) (d : Dict) : Dict :=
  (ks.filter (fun k => (Ctx.mapToSid pc d).hasKey k)).map
    (fun k => (k, ((Ctx.mapToSid pc d).get k).getD []))

/-- `path_to_dict(path)` without a forced type, with the `let`s removed -/
theorem pathToDict_none_eq (c : Ctx) (pc : PathConf) (p : Str) :
    c.pathToDict pc p none =
      (match Resolver.resolveFirst c.env pc.resolver p with
      | .error .resolva => .ok none
      | .error x => .error x
      | .ok none => .ok none
      | .ok (some (template, data)) =>
        match c.cfg.sid.keyTypes.lookup (((Str.splitStr template c.cfg.sid.sep).head?).getD []) with
        | none => .error .type
        | some keys => .ok (some (template, readFields pc keys data))) := rfl

theorem pathToDict_error_inv (c : Ctx) (pc : PathConf) (p : Str) (e : Err)
    (h : c.pathToDict pc p none = .error e) : e = .type ∧ ¬ KeyTypesCover c pc := by
  rw [pathToDict_none_eq] at h
  split at h
  · simp at h
  · next _ x hne hr =>
    exact absurd (resolveFirst_err _ _ _ _ hr).1 hne
  · simp at h
  · next _ template data hr =>
    split at h
    · next hl =>
      refine ⟨by simpa using h.symm, fun hkt => ?_⟩
      obtain ⟨t, ht, _⟩ := resolveFirst_inv _ _ _ _ _ hr
      have := hkt template ((Lst.lookup_isSome_iff _ _).2 (List.mem_map.2 ⟨_, ht, rfl⟩))
      rw [hl] at this
      cases this
    · simp at h

theorem pathToDict_inv (c : Ctx) (pc : PathConf) (p ty : Str) (fields : Dict)
    (h : c.pathToDict pc p none = .ok (some (ty, fields))) :
    ∃ (t : Template) (d0 : Dict) (ks : List Str), (ty, t) ∈ pc.templates ∧
      Resolver.resolveTpl c.env pc.resolver.checkDup t p = .ok (some d0) ∧
      fields = readFields pc ks d0 := by
  rw [pathToDict_none_eq] at h
  split at h
  · simp at h
  · simp at h
  · simp at h
  · next template data hr =>
    split at h
    · simp at h
    · next ks _ =>
      simp only [Except.ok.injEq, Option.some.injEq, Prod.mk.injEq] at h
      obtain ⟨rfl, rfl⟩ := h
      obtain ⟨t, ht, hrt⟩ := resolveFirst_inv _ _ _ _ _ hr
      exact ⟨t, data, ks, ht, hrt, rfl⟩

theorem pathToDict_total (c : Ctx) (pc : PathConf) (p : Str) (hkt : KeyTypesCover c pc) :
    ∃ r, c.pathToDict pc p none = .ok r :=
  Except.ok_of_no_error _ fun e h => ((pathToDict_error_inv c pc p e h).2 hkt).elim

theorem pathToSid_of_read (c : Ctx) (p : Str) (cfg : Option Str) (pc : PathConf)
    (hpc : c.cfg.pathConf? cfg = some pc) (ty : Str) (fields : Dict) (s : Str)
    (hd : c.pathToDict pc p none = .ok (some (ty, fields))) (hf : fields ≠ [])
    (hs : c.dictToSidStr fields ty = .ok s) (hse : s ≠ []) :
    c.pathToSid p cfg = (c.sidPath cfg ⟨s, ty, fields⟩).map
      (fun p' => if p' == some p then some ⟨s, ty, fields⟩ else none) := by
  simp only [Ctx.pathToSid, hpc, hd, hf, hs, hse, List.isEmpty_iff, if_false]
  cases c.sidPath cfg ⟨s, ty, fields⟩ with
  | error e => rfl
  | ok p' => simp only [Except.map]; split <;> rfl

theorem pathToSid_of_none (c : Ctx) (p : Str) (cfg : Option Str) (pc : PathConf)
    (hpc : c.cfg.pathConf? cfg = some pc) (hd : c.pathToDict pc p none = .ok none) :
    c.pathToSid p cfg = .ok none := by
  simp [Ctx.pathToSid, hpc, hd]

theorem pathToSid_cases (c : Ctx) (p : Str) (cfg : Option Str) (pc : PathConf)
    (hpc : c.cfg.pathConf? cfg = some pc) :
    (∃ e, c.pathToDict pc p none = .error e ∧ c.pathToSid p cfg = .error e) ∨
    c.pathToSid p cfg = .ok none ∨
    ∃ ty fields s, c.pathToDict pc p none = .ok (some (ty, fields)) ∧ fields ≠ [] ∧
      c.dictToSidStr fields ty = .ok s ∧ s ≠ [] ∧
      c.pathToSid p cfg = (c.sidPath cfg ⟨s, ty, fields⟩).map
        (fun p' => if p' == some p then some ⟨s, ty, fields⟩ else none) := by
  cases hd : c.pathToDict pc p none with
  | error e => exact Or.inl ⟨e, rfl, by simp [Ctx.pathToSid, hpc, hd]⟩
  | ok r =>
    right
    match r, hd with
    | none, hd => exact Or.inl (pathToSid_of_none c p cfg pc hpc hd)
    | some (ty, fields), hd =>
      by_cases hf : fields = []
      · exact Or.inl (by simp [Ctx.pathToSid, hpc, hd, hf])
      · obtain ⟨s, hs⟩ := dictToSidStr_total c fields ty hf
        by_cases hse : s = []
        · exact Or.inl (by simp [Ctx.pathToSid, hpc, hd, hf, hs, hse])
        · exact Or.inr ⟨ty, fields, s, rfl, hf, hs, hse,
            pathToSid_of_read c p cfg pc hpc ty fields s hd hf hs hse⟩

theorem pathToSid_ok_iff (c : Ctx) (p : Str) (cfg : Option Str) (pc : PathConf)
    (hpc : c.cfg.pathConf? cfg = some pc) (x : Sid) :
    c.pathToSid p cfg = .ok (some x) ↔
      c.pathToDict pc p none = .ok (some (x.type, x.fields)) ∧ x.fields ≠ [] ∧
      c.dictToSidStr x.fields x.type = .ok x.string ∧ x.string ≠ [] ∧
      c.sidPath cfg x = .ok (some p) := by
  constructor
  · intro h
    rcases pathToSid_cases c p cfg pc hpc with ⟨e, _, he⟩ | hn | ⟨ty, fields, s, hd, hf, hs, hse, heq⟩
    · rw [he] at h; cases h
    · rw [hn] at h; cases h
    · rw [heq] at h
      cases hp : c.sidPath cfg ⟨s, ty, fields⟩ with
      | error e => rw [hp] at h; cases h
      | ok p' =>
        rw [hp] at h
        simp only [Except.map, Except.ok.injEq] at h
        split at h
        · next hpp =>
          cases h
          exact ⟨hd, hf, hs, hse, by rw [hp, beq_iff_eq.mp hpp]⟩
        · cases h
  · rintro ⟨hd, hf, hs, hse, hp⟩
    rw [pathToSid_of_read c p cfg pc hpc x.type x.fields x.string hd hf hs hse]
    show (c.sidPath cfg x).map _ = _
    rw [hp]
    simp [Except.map]

theorem pathToSid_error_inv (c : Ctx) (p : Str) (cfg : Option Str) (pc : PathConf)
    (hpc : c.cfg.pathConf? cfg = some pc) (e : Err) (h : c.pathToSid p cfg = .error e) :
    c.pathToDict pc p none = .error e ∨
    ∃ ty fields s, c.pathToDict pc p none = .ok (some (ty, fields)) ∧
      c.sidPath cfg ⟨s, ty, fields⟩ = .error e := by
  rcases pathToSid_cases c p cfg pc hpc with ⟨e', hd, he⟩ | hn | ⟨ty, fields, s, hd, _, _, _, heq⟩
  · rw [he] at h; cases h; exact Or.inl hd
  · rw [hn] at h; cases h
  · rw [heq] at h
    cases hp : c.sidPath cfg ⟨s, ty, fields⟩ with
    | error e' => rw [hp] at h; cases h; exact Or.inr ⟨ty, fields, s, hd, hp⟩
    | ok p' => rw [hp] at h; cases h

theorem pathToSid_inv (c : Ctx) (p : Str) (cfg : Option Str) (x : Sid)
    (h : c.pathToSid p cfg = .ok (some x)) :
    x.fields ≠ [] ∧ c.sidPath cfg x = .ok (some p) := by
  cases hpc : c.cfg.pathConf? cfg with
  | none => simp [Ctx.pathToSid, hpc] at h
  | some pc =>
    obtain ⟨_, hf, _, _, hp⟩ := (pathToSid_ok_iff c p cfg pc hpc x).mp h
    exact ⟨hf, hp⟩

theorem pathToSid_err (c : Ctx) (p : Str) (cfg : Option Str) (e : Err)
    (h : c.pathToSid p cfg = .error e) : e = .other ∨ e = .type ∨ e = .resolva := by
  cases hpc : c.cfg.pathConf? cfg with
  | none => simp [Ctx.pathToSid, hpc] at h; exact Or.inl h.symm
  | some pc =>
    rcases pathToSid_error_inv c p cfg pc hpc e h with hd | ⟨_, _, _, _, hp⟩
    · exact Or.inr (Or.inl (pathToDict_error_inv _ _ _ _ hd).1)
    · exact Or.inr (Or.inr (sidPath_error_inv c cfg pc hpc _ e hp).1)

/-- `path_to_sid` never raises when `key_types` is complete and the reverse check of `sid.path`
    does not clash on the dictionary `dict_to_path` prepares from what `path_to_dict` read -/
theorem pathToSid_total (c : Ctx) (p : Str) (cfg : Option Str) (pc : PathConf)
    (hpc : c.cfg.pathConf? cfg = some pc) (hkt : KeyTypesCover c pc)
    (hclash : ∀ ty fields t, c.pathToDict pc p none = .ok (some (ty, fields)) →
      pc.resolver.lookup ty = some t →
      Dict.keysEq (Ctx.pathData pc fields (Template.keys t)) (Template.keys t) = true →
      Resolver.formatOne c.env pc.resolver (Ctx.pathData pc fields (Template.keys t)) ty ≠
        .error .resolva) :
    ∃ r, c.pathToSid p cfg = .ok r := by
  refine Except.ok_of_no_error _ (fun e h => ?_)
  rcases pathToSid_error_inv c p cfg pc hpc e h with hd | ⟨ty, fields, s, hd, hp⟩
  · obtain ⟨r, hr⟩ := pathToDict_total c pc p hkt
    rw [hr] at hd; cases hd
  · obtain ⟨_, t, ht, hk, hfo⟩ := sidPath_error_inv c cfg pc hpc _ e hp
    exact hclash ty fields t hd ht hk hfo

/-! ### `Sid(path=p, config=c)` -/

theorem sidOfPath_eq (c : Ctx) (p : Str) (cfg : Option Str) :
    c.sidOfPath p cfg =
      if p.isEmpty then .ok Sid.empty else (c.pathToSid p cfg).map (·.getD Sid.empty) := by
  unfold Ctx.sidOfPath
  split
  · rfl
  · cases c.pathToSid p cfg <;> rfl

theorem sidOfPath_inv (c : Ctx) (p : Str) (cfg : Option Str) (x : Sid)
    (h : c.sidOfPath p cfg = .ok x) : x = Sid.empty ∨ c.pathToSid p cfg = .ok (some x) := by
  rw [sidOfPath_eq] at h
  split at h
  · exact Or.inl (by simpa using h.symm)
  · cases hr : c.pathToSid p cfg with
    | error e => rw [hr] at h; cases h
    | ok r =>
      rw [hr] at h
      cases r with
      | none => exact Or.inl (by simpa [Except.map] using h.symm)
      | some y => exact Or.inr (by simpa [Except.map] using h)

theorem sidOfPath_error_inv (c : Ctx) (p : Str) (cfg : Option Str) (e : Err)
    (h : c.sidOfPath p cfg = .error e) : c.pathToSid p cfg = .error e := by
  rw [sidOfPath_eq] at h
  split at h
  · cases h
  · cases hr : c.pathToSid p cfg with
    | error e' => rw [hr] at h; cases h; rfl
    | ok r => rw [hr] at h; cases h

theorem sidOfPath_total (c : Ctx) (p : Str) (cfg : Option Str)
    (h : ∃ r, c.pathToSid p cfg = .ok r) : ∃ x, c.sidOfPath p cfg = .ok x := by
  obtain ⟨r, hr⟩ := h
  rw [sidOfPath_eq, hr]
  split <;> exact ⟨_, rfl⟩

end PathL
