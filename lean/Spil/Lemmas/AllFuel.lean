/-
  Spil.Lemmas.AllFuel — the fuel of the mutual block `finderDoFind / finderFind / constStar` is only
  a termination device: once it exceeds twice the length of the parent chain of the finder, the
  answer no longer depends on it.
-/
import Spil.Lemmas.AllConst

namespace DataConf

/-- length of the parent chain that starts at finder `i` (`FindInPaths` and a `FindInConstants`
    without parent source: 0), followed for at most `n` finders; `none` when the chain leaves the
    table (a dangling index) or is longer than `n` -/
def depth (dc : DataConf) : Nat → Nat → Option Nat
  | 0, _ => none
  | n + 1, i =>
    match dc.finders[i]? with
    | none => none
    | some (.paths _) => some 0
    | some (.constants _ _ none) => some 0
    | some (.constants _ _ (some p)) => (depth dc n p).map (· + 1)

/-- the parent indices are valid and form chains without cycles: from every finder the chain of
    parent sources ends after at most `finders.length` finders -/
def chainOk (dc : DataConf) : Bool :=
  (List.range dc.finders.length).all (fun i => (dc.depth dc.finders.length i).isSome)

theorem depth_constants {dc : DataConf} {n i p : Nat} {k : Str} {v : List Str}
    (h : dc.finders[i]? = some (.constants k v (some p))) :
    dc.depth (n + 1) i = (dc.depth n p).map (· + 1) := by
  simp only [depth, h]

theorem depth_lt (dc : DataConf) : ∀ (n i r : Nat), dc.depth n i = some r → r < n
  | 0, _, _, h => by simp [depth] at h
  | n + 1, i, r, h => by
    unfold depth at h
    split at h
    · cases h
    · injection h with h; omega
    · injection h with h; omega
    · next p _ =>
      cases hp : depth dc n p with
      | none => rw [hp] at h; cases h
      | some r' =>
        rw [hp] at h
        simp only [Option.map_some, Option.some.injEq] at h
        have := depth_lt dc n p r' hp
        omega

theorem chainOk_depth (dc : DataConf) (h : dc.chainOk = true) (i : Nat) (hi : i < dc.finders.length) :
    ∃ r, dc.depth dc.finders.length i = some r ∧ r < dc.finders.length := by
  unfold chainOk at h
  rw [List.all_eq_true] at h
  have := h i (List.mem_range.2 hi)
  cases hd : dc.depth dc.finders.length i with
  | none => rw [hd] at this; cases this
  | some r => exact ⟨r, rfl, depth_lt dc _ _ _ hd⟩

end DataConf

namespace AllL

variable (d : DCtx) (w : World)

/-- any two fuels above twice the chain length (+1) give the same answer: one hop to the parent
    source costs two units, since `finderDoFind` and the `finderFind` it reaches through `constStar`
    each take one (`constStar` passes its fuel on) -/
theorem finderDoFind_fuel_indep : ∀ (n i r : Nat), d.data.depth n i = some r → ∀ (f f' : Nat),
    2 * r + 1 ≤ f → 2 * r + 1 ≤ f' → ∀ ss, d.finderDoFind w f i ss = d.finderDoFind w f' i ss
  | 0, _, _, h, _, _, _, _, _ => by simp [DataConf.depth] at h
  | n + 1, i, r, h, f, f', hf, hf', ss => by
    obtain ⟨g, rfl⟩ : ∃ g, f = g + 1 := ⟨f - 1, by omega⟩
    obtain ⟨g', rfl⟩ : ∃ g', f' = g' + 1 := ⟨f' - 1, by omega⟩
    cases hi : d.data.finders[i]? with
    | none => rw [finderDoFind_none d w _ i hi, finderDoFind_none d w _ i hi]
    | some fd =>
      cases fd with
      | paths config =>
        rw [finderDoFind_paths d w g i config hi, finderDoFind_paths d w g' i config hi]
      | constants key values parent =>
        rw [finderDoFind_constants d w g i key values parent hi,
          finderDoFind_constants d w g' i key values parent hi]
        congr 1
        funext ss'
        apply constStar_congr
        rintro pi rfl rp
        rw [DataConf.depth_constants hi] at h
        obtain ⟨r', hp, rfl⟩ := Option.map_eq_some_iff.1 h
        obtain ⟨k, rfl⟩ : ∃ k, g = k + 1 := ⟨g - 1, by omega⟩
        obtain ⟨k', rfl⟩ : ∃ k', g' = k' + 1 := ⟨g' - 1, by omega⟩
        rw [finderFind_succ, finderFind_succ]
        exact findVia_congr d.ctx _ _ (finderDoFind_fuel_indep n pi r' hp k k' (by omega) (by omega)) rp

theorem finderDoFind_fuel (hc : d.data.chainOk = true) (i f f' : Nat)
    (hf : 2 * d.data.finders.length ≤ f) (hf' : 2 * d.data.finders.length ≤ f') (ss : List Sid) :
    d.finderDoFind w f i ss = d.finderDoFind w f' i ss := by
  by_cases hi : i < d.data.finders.length
  · obtain ⟨r, hr, hlt⟩ := DataConf.chainOk_depth d.data hc i hi
    exact finderDoFind_fuel_indep d w _ i r hr f f' (by omega) (by omega) ss
  · have hn : d.data.finders[i]? = none := by rw [List.getElem?_eq_none_iff]; omega
    rw [finderDoFind_none d w _ i hn, finderDoFind_none d w _ i hn]

theorem fuel_indep_find (n i r : Nat) (h : d.data.depth n i = some r) (f k : Nat)
    (hf : 2 * r + 2 ≤ f) (rp : Sid) :
    d.finderFind w (f + k) i rp = d.finderFind w f i rp := by
  obtain ⟨f', rfl⟩ : ∃ f', f = f' + 1 := ⟨f - 1, by omega⟩
  rw [show f' + 1 + k = (f' + k) + 1 by omega, finderFind_succ, finderFind_succ]
  exact findVia_congr d.ctx _ _ (finderDoFind_fuel_indep d w n i r h _ _ (by omega) (by omega)) rp

end AllL
