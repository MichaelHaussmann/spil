/-
  Spil.Lemmas.PathXL — the whole-code path model (`Spil.Model.PathX`) IS the model the theorems are
  about (`Spil.Model.Path`) for every path configuration without typed mapping and extra keys.
-/
import Spil.Model.PathX
import Spil.Lemmas.PathL

namespace PathXL

open Ctx

theorem plain_unpack (pc : PathConf) (h : pc.plain = true) :
    pc.typedMapping = [] ∧ pc.sidToExtra = [] ∧ pc.extraToSid = [] := by
  simp only [PathConf.plain, Bool.and_eq_true, List.isEmpty_iff] at h
  exact ⟨h.1.1, h.1.2, h.2⟩

theorem mapToSidX_eq (pc : PathConf) (h : pc.typedMapping = []) (t : Str) (d : Dict) :
    mapToSidX pc t d = mapToSid pc d := by
  unfold mapToSidX mapToSid
  apply List.map_congr_left
  intro kv _
  obtain ⟨k, v⟩ := kv
  simp only [h, List.lookup_nil]
  cases pc.mapping.lookup k with
  | none => rfl
  | some m => by_cases hm : m.isEmpty = true <;> simp [hm]

theorem extraToSidStep_eq (pc : PathConf) (h : pc.extraToSid = []) (d : Dict) :
    extraToSidStep pc d = d := by
  simp [extraToSidStep, h]

theorem addExtraKeys_eq (pc : PathConf) (h : pc.sidToExtra = []) (d : Dict) :
    addExtraKeys pc d = d := by
  simp [addExtraKeys, h]

theorem pathToDictX_eq (c : Ctx) (pc : PathConf) (h : pc.plain = true) (path : Str) (ty : Option Str) :
    c.pathToDictX pc path ty = c.pathToDict pc path ty := by
  obtain ⟨h1, _, h3⟩ := plain_unpack pc h
  -- the key-set guard of `pathToDictX` never fires: `mapToSid` keeps the key list
  have hguard : ∀ data0 : Dict, Dict.keysEq (mapToSid pc data0) data0.keys = true := fun data0 =>
    Dict.keysEq_of_keys_eq _ _ ((Det.mapToSid_keys pc data0).trans (Dict.keys_eq data0).symm)
  simp only [pathToDictX, pathToDict, mapToSidX_eq pc h1, extraToSidStep_eq pc h3, hguard,
    Bool.not_true, Bool.false_eq_true, if_false]
  rfl

theorem pathDataX_eq (pc : PathConf) (h : pc.plain = true) (ty : Str) (d : Dict) (ks : List Str) :
    pathDataX pc ty d ks = pathData pc d ks := by
  obtain ⟨h1, h2, _⟩ := plain_unpack pc h
  unfold pathDataX pathData
  simp only [addExtraKeys_eq pc h2, h1, List.lookup_nil]
  rfl

theorem dictToPathX_eq (c : Ctx) (pc : PathConf) (h : pc.plain = true) (data : Dict) (ty : Str) :
    c.dictToPathX pc data ty = c.dictToPath pc data ty := by
  unfold dictToPathX dictToPath
  simp only [pathDataX_eq pc h]
  rfl

def allPlain (cfg : Conf) : Bool := cfg.paths.all PathConf.plain

theorem pathConf_plain (c : Ctx) (h : allPlain c.cfg = true) (config : Option Str) (pc : PathConf)
    (hp : c.cfg.pathConf? config = some pc) : pc.plain = true := by
  simp only [allPlain, List.all_eq_true] at h
  exact h pc (Conf.pathConf?_mem hp)

theorem sidPathX_eq (c : Ctx) (h : allPlain c.cfg = true) (config : Option Str) (x : Sid) :
    c.sidPathX config x = c.sidPath config x := by
  unfold sidPathX sidPath
  split
  · rfl
  · cases hp : c.cfg.pathConf? config with
    | none => rfl
    | some pc => simp only [dictToPathX_eq c pc (pathConf_plain c h config pc hp)]; rfl

theorem pathToSidX_eq (c : Ctx) (h : allPlain c.cfg = true) (path : Str) (config : Option Str) :
    c.pathToSidX path config = c.pathToSid path config := by
  unfold pathToSidX pathToSid
  cases hp : c.cfg.pathConf? config with
  | none => rfl
  | some pc =>
    simp only [pathToDictX_eq c pc (pathConf_plain c h config pc hp), sidPathX_eq c h]
    rfl

/-- `Sid(path=p, config=c)`: what the driver computes is what C05 / C06 speak about -/
theorem sidOfPathX_eq (c : Ctx) (h : allPlain c.cfg = true) (path : Str) (config : Option Str) :
    c.sidOfPathX path config = c.sidOfPath path config := by
  unfold sidOfPathX sidOfPath
  simp only [pathToSidX_eq c h]
  rfl

end PathXL
