/-
  Spil.Lemmas.DetDict — `match_to_dict` with the duplicate check on captures whose repeated keys
  agree; the three-digit group counter.
-/
import Spil.Lemmas.DetTpl
import Spil.Lemmas.Template
import Spil.Lemmas.Digits

namespace Det

open Spec

theorem get_some_mem (d : Dict) (k v : Str) (h : d.get k = some v) : k ∈ d.map (·.1) :=
  (Dict.get_isSome_iff d k).1 (by rw [h]; rfl)

/-! ### the counter -/

/-- `match_to_dict` recovers the key from a group name `key%03d` -/
theorem capNames_dropCounter : ∀ (t : Template) (seen : List Tok),
    (∀ k ∈ phKeys t, Template.countKey k (seen ++ t) < 1000) →
    (capNames seen t).map SidL.dropCounter = phKeys t
  | [], seen, _ => rfl
  | .lit s :: rest, seen, h => by
    simp only [capNames, phKeys]
    apply capNames_dropCounter rest
    intro k hk
    have := h k (by simpa [phKeys] using hk)
    simpa using this
  | .ph k ex :: rest, seen, h => by
    simp only [capNames, phKeys, List.map_cons]
    have hk := h k (by simp [phKeys])
    have hle : Template.countKey k seen + 1 ≤ Template.countKey k (seen ++ .ph k ex :: rest) := by
      rw [SidL.countKey_append]; simp [Template.countKey]
    rw [SidL.dropCounter_append k _ (Str.pad3_length _ (by omega))]
    congr 1
    apply capNames_dropCounter rest
    intro k' hk'
    have := h k' (by simp [phKeys, hk'])
    simpa using this

theorem capNames_length : ∀ (t : Template) (seen : List Tok),
    (capNames seen t).length = (phKeys t).length
  | [], _ => rfl
  | .lit s :: rest, seen => by simp only [capNames, phKeys]; exact capNames_length rest _
  | .ph k ex :: rest, seen => by
    simp only [capNames, phKeys, List.length_cons]; rw [capNames_length rest _]

theorem capNames_dropCounter_nil (t : Template)
    (hcnt : ∀ k ∈ phKeys t, Template.countKey k t < 1000) :
    (capNames [] t).map SidL.dropCounter = phKeys t :=
  capNames_dropCounter t [] (by simpa using hcnt)

/-! ### `keys` -/

theorem keys_eq_dedup : ∀ t : Template, Template.keys t = Lst.dedupBy (· == ·) (phKeys t)
  | [] => rfl
  | .lit s :: rest => by simp only [Template.keys, phKeys]; exact keys_eq_dedup rest
  | .ph k ex :: rest => by
    simp only [Template.keys, phKeys, Lst.dedupBy, keys_eq_dedup rest, bne, Bool.beq_comm]

theorem mem_keys_iff_phKeys (k : Str) (t : Template) : k ∈ Template.keys t ↔ k ∈ phKeys t := by
  rw [keys_eq_dedup, Lst.mem_dedupBy]

theorem mem_keys (k : Str) (t : Template) : k ∈ Template.keys t ↔ ∃ ex, Tok.ph k ex ∈ t := by
  rw [mem_keys_iff_phKeys]
  induction t with
  | nil => simp [phKeys]
  | cons tok rest ih =>
    cases tok with
    | lit s => simp [phKeys, ih]
    | ph k' ex' =>
      simp only [phKeys, List.mem_cons, ih, Tok.ph.injEq]
      constructor
      · rintro (rfl | ⟨ex, h⟩)
        · exact ⟨ex', Or.inl ⟨rfl, rfl⟩⟩
        · exact ⟨ex, Or.inr h⟩
      · rintro ⟨ex, ⟨rfl, _⟩ | h⟩
        · exact Or.inl rfl
        · exact Or.inr ⟨ex, h⟩

/-! ### accumulating consistent captures -/

/-- the accumulator of `match_to_dict` after captures of the keys `ks`, when every capture of a key
    `k` has the value `f k` -/
def accum (f : Str → Str) (ks : List Str) (acc : Dict) : Dict :=
  ks.foldl (fun a k => Dict.set a k (f k)) acc

theorem matchToDict_consistent (cd : Bool) (f : Str → Str) : ∀ (caps : Caps) (acc : Dict),
    (∀ p ∈ caps, p.2 = f (SidL.dropCounter p.1)) → (∀ k v, acc.get k = some v → v = f k) →
    Template.matchToDict cd caps acc = .ok (accum f (caps.map (fun p => SidL.dropCounter p.1)) acc)
  | [], acc, _, _ => rfl
  | (n, v) :: caps, acc, hc, ha => by
    have hv : v = f (SidL.dropCounter n) := hc (n, v) (by simp)
    have ih := matchToDict_consistent cd f caps (Dict.set acc (SidL.dropCounter n) v)
      (fun p hp => hc p (by simp [hp])) (by
        intro k v' hg
        rw [Dict.get_set] at hg
        split at hg
        · next hk => subst hk; simp at hg; rw [← hg, hv]
        · exact ha k v' hg)
    have hold : (cd && (acc.get (SidL.dropCounter n)).any (· != v)) = false := by
      cases hg : acc.get (SidL.dropCounter n) with
      | none => simp
      | some old => rw [ha _ _ hg, hv]; simp
    rw [SidL.matchToDict_cons, hold, if_neg Bool.false_ne_true, ih]
    simp only [List.map_cons, accum, List.foldl_cons, ← hv]

theorem accum_get (f : Str → Str) : ∀ (ks : List Str) (acc : Dict) (k : Str),
    (accum f ks acc).get k = if k ∈ ks then some (f k) else acc.get k
  | [], acc, k => by simp [accum]
  | k0 :: ks, acc, k => by
    simp only [accum, List.foldl_cons]
    have := accum_get f ks (Dict.set acc k0 (f k0)) k
    simp only [accum] at this
    rw [this, Dict.get_set]
    by_cases h1 : k ∈ ks
    · simp [h1]
    · by_cases h2 : k = k0
      · subst h2; simp
      · simp [h1, h2]

/-- storing under a key appends the key when it is new and keeps the key list otherwise
    (`Dict.keys_set`): from the empty dictionary, the keys are the first occurrences in `ks` -/
theorem accum_nil_keys (f : Str → Str) (ks : List Str) :
    (accum f ks []).map (·.1) = Lst.dedupBy (· == ·) ks := by
  rw [← List.reverse_reverse ks]
  induction ks.reverse with
  | nil => rfl
  | cons k r ih =>
    rw [List.reverse_cons, accum, List.foldl_append]
    show ((accum f r.reverse []).set k (f k)).map (·.1) = _
    rw [Dict.keys_set, ih, Lst.dedupBy_append]
    by_cases h : k ∈ r <;> simp [Lst.dedupBy, Lst.mem_dedupBy, h]

/-! ### what a successful `match_to_dict` stores -/

theorem matchToDict_ok_get : ∀ (caps : Caps) (acc d : Dict),
    Template.matchToDict true caps acc = .ok d →
    (∀ p ∈ caps, d.get (SidL.dropCounter p.1) = some p.2) ∧ (∀ k v, acc.get k = some v → d.get k = some v)
  | [], acc, d, h => by
    simp only [Template.matchToDict, Except.ok.injEq] at h
    subst h
    exact ⟨by simp, fun _ _ h => h⟩
  | (n, v) :: caps, acc, d, h => by
    have hstep : Template.matchToDict true caps (Dict.set acc (SidL.dropCounter n) v) = .ok d ∧
        (∀ old, acc.get (SidL.dropCounter n) = some old → old = v) := by
      rw [SidL.matchToDict_cons] at h
      split at h
      · cases h
      · next hc => exact ⟨h, fun old hg => by simpa [hg] using hc⟩
    obtain ⟨ih1, ih2⟩ := matchToDict_ok_get caps _ d hstep.1
    have hnew : d.get (SidL.dropCounter n) = some v := ih2 _ _ (by rw [Dict.get_set]; simp)
    refine ⟨?_, ?_⟩
    · intro p hp
      simp only [List.mem_cons] at hp
      rcases hp with rfl | hp
      · exact hnew
      · exact ih1 p hp
    · intro k v' hg
      by_cases hk : k = SidL.dropCounter n
      · subst hk
        rw [hstep.2 v' hg]; exact hnew
      · apply ih2
        rw [Dict.get_set]; simp [hk, hg]

end Det
