/-
  Spil.Lemmas.GlobPath — from the field-wise glob between a search Sid and an entity Sid to `StarRel`
  between the pattern `sid.path()` renders for the search and the path it renders for the entity:
  `pathData` (defaults, reverse mapping) preserves the field-wise glob when `*` is a fixed point of
  the mapping, and `Template.format` turns it into `StarRel`.
-/
import Spil.Lemmas.Glob
import Spil.Lemmas.PathL
import Spil.Lemmas.DetC06

namespace GlobL

open Spec

/-- the admissibility condition on the entity, as a Boolean: every PATH value of the entity
    (after defaults and reverse mapping) is `valOk` -/
def entityValsOk (c : Ctx) (config : Option Str) (e : Sid) : Bool :=
  match c.cfg.pathConf? config with
  | none => false
  | some pc =>
    match pc.resolver.lookup e.type with
    | none => false
    | some t => (Ctx.pathData pc e.fields (Template.keys t)).all (fun kv => valOk kv.2)

/-! ### `fieldsGlob` -/

theorem fieldsGlob_refl (a : Dict) : fieldsGlob a a := by
  induction a with
  | nil => trivial
  | cons p a ih => obtain ⟨k, v⟩ := p; exact ⟨rfl, Or.inr rfl, ih⟩

theorem fieldsGlob_keys : ∀ (a b : Dict), fieldsGlob a b → a.map (·.1) = b.map (·.1)
  | [], [], _ => rfl
  | [], _ :: _, h => h.elim
  | _ :: _, [], h => h.elim
  | (k, v) :: s, (k', v') :: e, h => by
    obtain ⟨hk, _, hr⟩ := h
    simp [hk, fieldsGlob_keys s e hr]

theorem fieldsGlob_append : ∀ (a b c d : Dict), fieldsGlob a b → fieldsGlob c d →
    fieldsGlob (a ++ c) (b ++ d)
  | [], [], _, _, _, h => h
  | [], _ :: _, _, _, h, _ => h.elim
  | _ :: _, [], _, _, h, _ => h.elim
  | (k, v) :: s, (k', v') :: e, c, d, h, h' => by
    obtain ⟨hk, hv, hr⟩ := h
    exact ⟨hk, hv, fieldsGlob_append s e c d hr h'⟩

theorem fieldsGlob_map (φ : Str → Str → Str) (hφ : ∀ k, φ k ['*'] = ['*']) :
    ∀ (a b : Dict), fieldsGlob a b →
      fieldsGlob (a.map (fun p => (p.1, φ p.1 p.2))) (b.map (fun p => (p.1, φ p.1 p.2)))
  | [], [], _ => trivial
  | [], _ :: _, h => h.elim
  | _ :: _, [], h => h.elim
  | (k, v) :: s, (k', v') :: e, h => by
    obtain ⟨hk, hv, hr⟩ := h
    subst hk
    refine ⟨rfl, ?_, fieldsGlob_map φ hφ s e hr⟩
    rcases hv with rfl | rfl
    · exact Or.inl (hφ k)
    · exact Or.inr rfl

theorem fieldsGlob_get : ∀ (a b : Dict), fieldsGlob a b → ∀ k vs ve,
    a.get k = some vs → b.get k = some ve → vs = ['*'] ∨ vs = ve
  | [], [], _, k, vs, ve, h1, _ => by simp [Dict.get] at h1
  | [], _ :: _, h, _, _, _, _, _ => h.elim
  | _ :: _, [], h, _, _, _, _, _ => h.elim
  | (k0, v) :: s, (k0', v') :: e, h, k, vs, ve, h1, h2 => by
    obtain ⟨hk, hv, hr⟩ := h
    subst hk
    unfold Dict.get at h1 h2
    rw [List.lookup_cons] at h1 h2
    cases hb : k == k0 with
    | true =>
      simp only [hb] at h1 h2
      injection h1 with h1; injection h2 with h2
      subst h1; subst h2; exact hv
    | false =>
      simp only [hb] at h1 h2
      exact fieldsGlob_get s e hr k vs ve h1 h2

/-! ### `pathData` -/

theorem g2_star (pc : PathConf) (hfix : starFixed pc = true) (k : Str) :
    Det.g2 pc k ['*'] = ['*'] := by
  rcases Det.g2_cases pc k ['*'] with h | ⟨m, pv, hl, hm, hv, h⟩
  · exact h
  · have := List.all_eq_true.1 (List.all_eq_true.1 hfix _ (Lst.lookup_mem _ _ _ hl)) pv hm
    simpa [h, hv] using this

/-- a relation between two dictionaries survives the three loops of `dict_to_path` when the two value
    maps (`Det.g1`: the default for an empty value, `Det.g2`: the reverse mapping) establish it and
    the step for a missing key (`Det.gMissing`) keeps it -/
theorem pathData_rel (pc : PathConf) (I : Dict → Dict → Prop) (fs fe : Dict) (keys : List Str)
    (h0 : I ((fs.map (fun p => (p.1, Det.g1 pc p.1 p.2))).map (fun p => (p.1, Det.g2 pc p.1 p.2)))
      ((fe.map (fun p => (p.1, Det.g1 pc p.1 p.2))).map (fun p => (p.1, Det.g2 pc p.1 p.2))))
    (hstep : ∀ a b k, I a b → I (Det.gMissing pc a k) (Det.gMissing pc b k)) :
    I (Ctx.pathData pc fs keys) (Ctx.pathData pc fe keys) := by
  rw [Det.pathData_eq, Det.pathData_eq]
  generalize (fs.map (fun p => (p.1, Det.g1 pc p.1 p.2))).map (fun p => (p.1, Det.g2 pc p.1 p.2)) = a at h0
  generalize (fe.map (fun p => (p.1, Det.g1 pc p.1 p.2))).map (fun p => (p.1, Det.g2 pc p.1 p.2)) = b at h0
  induction keys generalizing a b with
  | nil => exact h0
  | cons k keys ih => exact ih _ _ (hstep a b k h0)

theorem fieldsGlob_pathData (pc : PathConf) (hfix : starFixed pc = true) (fs fe : Dict)
    (h : fieldsGlob fs fe) (keys : List Str) :
    fieldsGlob (Ctx.pathData pc fs keys) (Ctx.pathData pc fe keys) := by
  refine pathData_rel pc fieldsGlob fs fe keys (fieldsGlob_map (Det.g2 pc) (g2_star pc hfix) _ _
    (fieldsGlob_map (Det.g1 pc) (fun k => Det.g1_of_ne pc k _ (by simp)) fs fe h)) (fun a b k h2 => ?_)
  unfold Det.gMissing
  rw [Dict.hasKey_eq_of_keys a b (fieldsGlob_keys a b h2) k]
  split
  · split
    · exact fieldsGlob_append _ _ _ _ h2 (fieldsGlob_refl _)
    · exact h2
  · exact h2

/-- a Boolean property of values survives the three loops of `dict_to_path` when the default for an
    empty value and the reverse mapping keep it and the non-empty defaults have it -/
theorem all_pathData (pc : PathConf) (Q : Str → Bool)
    (h1 : ∀ k v, Q v = true → Q (Det.g1 pc k v) = true)
    (h2 : ∀ k v, Q v = true → Q (Det.g2 pc k v) = true)
    (hdef : ∀ k dv, pc.defaults.lookup k = some dv → dv.isEmpty = false → Q dv = true)
    (data : Dict) (keys : List Str) (h : data.all (fun kv => Q kv.2) = true) :
    (Ctx.pathData pc data keys).all (fun kv => Q kv.2) = true := by
  refine pathData_rel pc (fun a _ => a.all (fun kv => Q kv.2) = true) data data keys ?_
    (fun a _ k hmaps => ?_)
  · rw [List.all_eq_true] at h ⊢
    intro kv hkv
    obtain ⟨kv1, hkv1, rfl⟩ := List.mem_map.1 hkv
    obtain ⟨kv0, hkv0, rfl⟩ := List.mem_map.1 hkv1
    exact h2 _ _ (h1 _ _ (h kv0 hkv0))
  · unfold Det.gMissing
    split
    · next dv hdv =>
      split
      · next hc =>
        rw [Bool.and_eq_true, Bool.not_eq_true', Bool.not_eq_true'] at hc
        rw [List.all_append, hmaps, List.all_cons, hdef k dv hdv hc.2]
        rfl
      · exact hmaps
    · exact hmaps

/-! ### `Template.format` -/

theorem format_starRel (P : Str → Prop) (t : Template) (ds de : Dict) (h : fieldsGlob ds de)
    (hv : ∀ kv ∈ de, P kv.2) (rs re : Str)
    (hs : Template.format t ds = some rs) (he : Template.format t de = some re) :
    StarRel P rs re := by
  induction t generalizing rs re with
  | nil => cases hs; cases he; exact .nil
  | cons tok rest ih =>
    cases tok with
    | lit s =>
      obtain ⟨rs', hs', rfl⟩ := (SidL.format_lit_cons ..).1 hs
      obtain ⟨re', he', rfl⟩ := (SidL.format_lit_cons ..).1 he
      exact (StarRel.refl P s).append (ih rs' re' hs' he')
    | ph k ex =>
      obtain ⟨vs, rs', hvs, hrs', rfl⟩ := (SidL.format_ph_cons ..).1 hs
      obtain ⟨ve, re', hve, hre', rfl⟩ := (SidL.format_ph_cons ..).1 he
      have ih' := ih rs' re' hrs' hre'
      rcases fieldsGlob_get ds de h k vs ve hvs hve with rfl | rfl
      · exact .star ve (hv (k, ve) (Lst.lookup_mem de k ve hve)) ih'
      · exact (StarRel.refl P vs).append ih'

/-! ### `sid.path()` -/

theorem sidPath_compMatch (c : Ctx) (config : Option Str) (s e : Sid) (pat p : Str)
    (hs : c.sidPath config s = .ok (some pat)) (he : c.sidPath config e = .ok (some p))
    (hg : SidGlob s e)
    (hfix : ∀ pc, c.cfg.pathConf? config = some pc → starFixed pc = true)
    (hvals : entityValsOk c config e = true) (hb : '[' ∉ pat) :
    All2 (fun x y => World.compMatch x y = true) (Str.splitOn '/' pat) (Str.splitOn '/' p) := by
  obtain ⟨pc, t, raws, hpc, _, ht, _, _, hfs, rfl⟩ := PathL.sidPath_inv c config s pat hs
  obtain ⟨pc', t', rawe, hpc', _, ht', _, _, hfe, rfl⟩ := PathL.sidPath_inv c config e p he
  cases hpc.symm.trans hpc'
  rw [hg.1] at ht
  cases ht'.symm.trans ht
  have hdata := fieldsGlob_pathData pc (hfix pc hpc) s.fields e.fields hg.2 (Template.keys t)
  have hv : ∀ kv ∈ Ctx.pathData pc e.fields (Template.keys t), VP kv.2 := by
    unfold entityValsOk at hvals
    simp only [hpc, ht'] at hvals
    exact fun kv hkv => List.all_eq_true.1 hvals kv hkv
  have hrel := format_starRel VP t _ _ hdata hv raws rawe hfs hfe
  exact hrel.norm_compMatch hb

end GlobL
