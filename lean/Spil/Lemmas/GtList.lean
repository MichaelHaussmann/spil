/-
  Spil.Lemmas.GtList — `FindByGlob.do_find` over an arbitrary star search (`DCtx.doFindWith` on Sids;
  the list Finder's `Ctx.doFindGlob` on strings is an instance), the list Finder's star search for
  one pattern, and the string of a re-resolved '>' ↦ '*' uri.
-/
import Spil.Lemmas.GtPick
import Spil.Props.C08
import Spil.Lemmas.AllRoute

/-- `sid_to_sid` on an input without query: the part after the first ':' (all of it when there is
    none) goes through `sidToDict`, with the part before as forced type -/
theorem Ctx.sidToSid_of_noQuery (c : Ctx) (u : Str) (hq : '?' ∉ u) (t : Str) (o : Option Str)
    (h : Str.split1 ':' u = (t, o)) :
    c.sidToSid u = (c.sidToDict (o.getD u) (o.map fun _ => t)).map
      fun r => ⟨o.getD u, (r.map (·.1)).getD [], (r.map (·.2)).getD []⟩ := by
  unfold Ctx.sidToSid
  rw [Str.split1_none '?' u hq]
  simp only [h, List.isEmpty_nil, if_true]
  cases o <;> simp only [Option.getD, Option.map] <;> cases c.sidToDict _ _ <;> rfl

namespace GtL

open Spec Find

/-! ### `do_find` over any star search -/

/-- the '>' branch of `do_find`: the index comes from the FIRST search, every search is
    re-resolved with '>' ↦ '*' and star-searched on its own, the concatenation is picked from -/
theorem doFindWith_gt_eq (d : DCtx) (star : List Sid → Except Err (List Str)) (s0 : Sid)
    (rest : List Sid) (idx : Nat) (hidx : GtAt idx s0.string) :
    d.doFindWith star (s0 :: rest) =
      match Ctx.flatMapE (fun x => match d.resolveSearch (gtStar x.uri) with
          | .error e => .error e
          | .ok s => star [s]) (s0 :: rest) with
      | .error e => .error e
      | .ok founds => .ok (sortedPick idx founds) := by
  have hany : (s0 :: rest).any (fun x => Str.hasChar '>' x.string) = true := by
    simp [hasChar_of_gtAt idx s0.string hidx]
  unfold GtAt at hidx
  simp only [DCtx.doFindWith, List.isEmpty_cons, Bool.false_eq_true, if_false, hany, if_true, hidx]
  rfl

theorem doFindWith_gt (d : DCtx) (star : List Sid → Except Err (List Str)) (s0 : Sid)
    (rest : List Sid) (idx : Nat) (hidx : GtAt idx s0.string) (stars : List Sid)
    (hres : Ctx.mapE (fun x => d.resolveSearch (gtStar x.uri)) (s0 :: rest) = .ok stars)
    (outs : List (List Str)) (hstar : Ctx.mapE (fun s => star [s]) stars = .ok outs) :
    d.doFindWith star (s0 :: rest) = .ok (sortedPick idx outs.flatten) := by
  rw [doFindWith_gt_eq d star s0 rest idx hidx,
    Ctx.flatMapE_of_mapE _ _ outs ((Ctx.mapE_comp (fun x => d.resolveSearch (gtStar x.uri))
      (fun s => star [s]) _ (fun x y hxy => by simp only [hxy]) _ stars hres).trans hstar)]

theorem doFindWith_star (d : DCtx) (star : List Sid → Except Err (List Str)) (searches : List Sid)
    (hne : searches ≠ []) (h : searches.any (fun x => Str.hasChar '>' x.string) = false) :
    d.doFindWith star searches = star searches :=
  AllL.doFindWith_star d star searches hne (fun x hx => by simpa using List.any_eq_false.1 h x hx)

/-- `FindByGlob.do_find` is modelled over strings for the list Finder (`Ctx.doFindGlob`) and over
    Sids for the others (`DCtx.doFindWith`): the first is an instance of the second -/
theorem doFindGlob_eq_doFindWith (d : DCtx) (star : List Str → Except Err (List Str))
    (searches : List Sid) :
    d.ctx.doFindGlob star searches = d.doFindWith (fun l => star (l.map (·.string))) searches := by
  unfold Ctx.doFindGlob DCtx.doFindWith Ctx.sortedSearch
  cases searches with
  | nil => rfl
  | cons s0 rest =>
    dsimp only
    unfold Ctx.flatMapE
    rw [Ctx.mapE_congr _ _ (s0 :: rest) (fun x _ => ?_)]
    · exact rfl
    · unfold Ctx.strOfUri DCtx.resolveSearch
      cases d.ctx.sidOfString _ <;> rfl

theorem doFindGlob_star (c : Ctx) (star : List Str → Except Err (List Str)) (searches : List Sid)
    (hne : searches ≠ []) (h : searches.any (fun x => Str.hasChar '>' x.string) = false) :
    c.doFindGlob star searches = star (searches.map (·.string)) :=
  Ctx.doFindGlob_star c star searches hne fun x hx =>
    (Str.hasChar_eq_false_iff '>' x.string).1 (by simpa using List.any_eq_false.1 h x hx)

theorem doFindGlob_gt (c : Ctx) (star : List Str → Except Err (List Str)) (s0 : Sid)
    (rest : List Sid) (idx : Nat) (hidx : GtAt idx s0.string) (pats : List Str)
    (hres : Ctx.mapE (fun x => c.strOfUri (gtStar x.uri)) (s0 :: rest) = .ok pats)
    (outs : List (List Str)) (hstar : Ctx.mapE (fun p => star [p]) pats = .ok outs) :
    c.doFindGlob star (s0 :: rest) = .ok (sortedPick idx outs.flatten) := by
  -- `doFindWith` does not look at the data configuration of its `DCtx`: any (`default`) will do
  rw [doFindGlob_eq_doFindWith ⟨c, default⟩, doFindWith_gt_eq _ _ s0 rest idx hidx,
    Ctx.flatMapE_of_mapE _ _ outs ((Ctx.mapE_comp (fun x => c.strOfUri (gtStar x.uri))
      (fun p => star [p]) _ (fun x y hxy => ?_) _ pats hres).trans hstar)]
  -- the string of the re-resolved Sid is what `strOfUri` answers
  unfold Ctx.strOfUri at hxy
  unfold DCtx.resolveSearch
  cases hs : c.sidOfString (gtStar x.uri) with
  | error e => rw [hs] at hxy; cases hxy
  | ok s => rw [hs] at hxy; cases hxy; rfl

/-! ### the list Finder's star search -/

theorem starSearch_one (e : Env) (l : List Str) (p : Str) (hb : '[' ∉ p) :
    starSearch e ⟨l, false⟩ [p] = .ok (Lst.dedupBy (· == ·) (l.filter (fun x => globB e p x))) := by
  rw [C08.c08_star_search e l [p] (List.forall_mem_singleton.2 hb)]
  simp

theorem doFindGlob_list_gt (c : Ctx) (l : List Str) (s0 : Sid) (rest : List Sid) (idx : Nat)
    (hidx : GtAt idx s0.string) (pats : List Str)
    (hres : Ctx.mapE (fun x => c.strOfUri (gtStar x.uri)) (s0 :: rest) = .ok pats)
    (hb : ∀ p ∈ pats, '[' ∉ p) :
    ∃ M, starSearch c.env ⟨l, false⟩ pats = .ok M ∧
      c.doFindGlob (starSearch c.env ⟨l, false⟩) (s0 :: rest) = .ok (sortedPick idx M) ∧
      ∀ x, x ∈ M ↔ (x ∈ l ∧ ∃ p ∈ pats, Glob p x) := by
  have hM := C08.c08_star_search c.env l pats hb
  obtain ⟨_, hmem⟩ := C08.c08_star_search_mem c.env l pats hb _ hM
  refine ⟨_, hM, ?_, hmem⟩
  have hstar : Ctx.mapE (fun p => starSearch c.env ⟨l, false⟩ [p]) pats =
      .ok (pats.map (fun p => Lst.dedupBy (· == ·) (l.filter (fun x => globB c.env p x)))) :=
    Ctx.mapE_eq_map _ _ _ (fun p hp => starSearch_one c.env l p (hb p hp))
  rw [doFindGlob_gt c _ s0 rest idx hidx pats hres _ hstar]
  congr 1
  apply sortedPick_congr
  intro x
  simp only [hmem, List.mem_flatten, Lst.exists_mem_map, Lst.mem_dedupBy, List.mem_filter]
  exact ⟨fun ⟨p, hp, hx, hg⟩ => ⟨hx, p, hp, (globB_iff_glob c.env p (hb p hp) x).1 hg⟩,
    fun ⟨hx, p, hp, hg⟩ => ⟨p, hp, hx, (globB_iff_glob c.env p (hb p hp) x).2 hg⟩⟩

/-! ### the string of `Sid(uri with '>' ↦ '*')` -/

theorem gtStar_uri (s : Sid) :
    gtStar s.uri = if s.type.isEmpty then gtStar s.string else gtStar s.type ++ ':' :: gtStar s.string := by
  unfold Sid.uri
  split
  · rfl
  · rw [gtStar_append, gtStar_cons]; rfl

theorem sidToSid_string (c : Ctx) (u : Str) (x : Sid) (hq : '?' ∉ u) (t : Str) (o : Option Str)
    (hsp : Str.split1 ':' u = (t, o)) (h : c.sidToSid u = .ok x) : x.string = o.getD u := by
  rw [Ctx.sidToSid_of_noQuery c u hq t o hsp] at h
  cases hd : c.sidToDict (o.getD u) (o.map fun _ => t) with
  | error e => rw [hd] at h; cases h
  | ok r => rw [hd] at h; cases h; rfl

/-- the string of the re-resolved Sid (side conditions explained at `C09.c09_strOfUri`) -/
theorem sidOfString_gtStar_string (c : Ctx) (s x : Sid) (hq : '?' ∉ s.uri) (ht : ':' ∉ s.type)
    (hs : s.type.isEmpty = true → ':' ∉ s.string) (h : c.sidOfString (gtStar s.uri) = .ok x) :
    x.string = gtStar s.string := by
  unfold Ctx.sidOfString at h
  split at h
  · next he =>
    injection h with h
    have hu : s.uri = [] := by simpa [gtStar] using he
    have : s.string = [] := by
      unfold Sid.uri at hu
      split at hu
      · exact hu
      · simp at hu
    rw [← h, this]; rfl
  · have hq' : '?' ∉ gtStar s.uri := by rwa [mem_gtStar '?' (by decide) (by decide)]
    rw [gtStar_uri] at h hq'
    by_cases hty : s.type.isEmpty = true
    · have : ':' ∉ gtStar s.string := by rw [mem_gtStar ':' (by decide) (by decide)]; exact hs hty
      rw [if_pos hty] at h hq'
      exact sidToSid_string c _ x hq' _ _ (Str.split1_none ':' _ this) h
    · have : ':' ∉ gtStar s.type := by rwa [mem_gtStar ':' (by decide) (by decide)]
      rw [if_neg hty] at h hq'
      exact sidToSid_string c _ x hq' _ _ (Str.split1_some ':' _ _ this) h

end GtL
