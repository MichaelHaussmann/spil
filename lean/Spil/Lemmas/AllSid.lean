/-
  Spil.Lemmas.AllSid — the Sid-level operations `FindInConstants` uses (`Sid(uri)`, `get_with(key=…)`,
  `parent`, `/`) on well-typed Sids of a configuration that follows the conventions (`sidHierOk`):
  what `_append_value` yields, as explicit strings, and what the `parent` of the root is.
-/
import Spil.Lemmas.AllConst
import Spil.Lemmas.Expand
import Spil.Props.C02
import Spil.Props.C04

namespace AllL

open Spec

/-- some configured template lists exactly the keys `K` (in this order) and accepts `str` -/
def typedAs (c : Ctx) (K : List Str) (str : Str) : Bool :=
  c.cfg.sid.templates.any (fun a => keysOf a.2 == K && accepts c.env a.2 str)

def parentStr (str : Str) : Str := Str.joinWith '/' (Str.splitOn '/' str).dropLast

def replaceLast (str v : Str) : Str := Str.joinWith '/' ((Str.splitOn '/' str).dropLast ++ [v])

/-- a constant value that can be a '/'-segment -/
def constValOk (v : Str) : Bool := !v.isEmpty && !v.contains '/' && !v.contains '\n'

/-- `Sid(fr).get_with(key=v)` is a typed Sid: `Sid(fr)` is typed (by the first template accepting
    `fr`), and some template lists its keys followed by `key` and accepts `fr/v` -/
def admitsChild (c : Ctx) (key fr v : Str) : Bool :=
  match firstAccepting c.env c.cfg.sid.templates fr with
  | none => false
  | some a => typedAs c (keysOf a.2 ++ [key]) (fr ++ '/' :: v)

/-- the keys `Sid(fr)` has (none when untyped) -/
def keysOfStr (c : Ctx) (fr : Str) : List Str :=
  match firstAccepting c.env c.cfg.sid.templates fr with
  | none => []
  | some a => keysOf a.2

/-- configuration convention for a constants key: for all templates `a`, `b`, if `key ∉ keys a` and
    `keys b = keys a ∪ {key}` as sets, then `keys b = keys a ++ [key]`: the child template lists
    `key` LAST, so that appending the key's value to the parent's string gives the child's string -/
def keyAppends (ts : List (Str × Template)) (key : Str) : Bool :=
  ts.all (fun a => ts.all (fun b =>
    !(!(keysOf a.2).contains key &&
      (keysOf b.2).all (fun k => k == key || (keysOf a.2).contains k) &&
      (keysOf a.2).all (fun k => (keysOf b.2).contains k) && (keysOf b.2).contains key)
    || keysOf b.2 == keysOf a.2 ++ [key]))

/-- for the kernel-checked examples -/
instance (s : Str) : Decidable (renderable s) := by
  unfold renderable
  exact inferInstance

theorem constValOk_iff (v : Str) : constValOk v = true ↔ v ≠ [] ∧ '/' ∉ v ∧ '\n' ∉ v := by
  unfold constValOk
  cases v with
  | nil => simp
  | cons a l => simp

theorem replaceLast_eq (str v : Str) (h : 2 ≤ (Str.splitOn '/' str).length) :
    replaceLast str v = parentStr str ++ '/' :: v := by
  unfold replaceLast parentStr
  apply Str.joinWith_concat
  intro h0
  have := congrArg List.length h0
  rw [List.length_dropLast] at this
  simp at this
  omega

theorem replaceLast_single (str v : Str) (h : (Str.splitOn '/' str).length = 1) :
    replaceLast str v = v := by
  unfold replaceLast
  match hs : Str.splitOn '/' str, h with
  | [a], _ => rfl

/-! ### `get_with(key=v)` kept when typed (`withVal`) -/

section withVal

variable (d : DCtx)

theorem withVal_of_dictOf (hwf : sidHierOk d.ctx.env d.ctx.cfg.sid.templates = true) (x : Sid) (hx : x.typed = true) (key v : Str) (K vals : List Str)
    (hd : HierL.DictOf d.ctx.cfg.sid.templates K vals (Dict.set x.fields key v)) (hK : K ≠ [])
    (hsl : ∀ u ∈ vals, '/' ∉ u) (hr : renderable (Str.joinWith '/' vals)) :
    withVal d key x v =
      .ok (if typedAs d.ctx K (Str.joinWith '/' vals) then [Str.joinWith '/' vals] else []) := by
  have hxf : x.fields.isEmpty = false := by
    unfold Sid.typed at hx
    simpa using hx
  have hne : (Dict.set x.fields key v).isEmpty = false := by
    have := hd.ne_nil hK
    cases h : Dict.set x.fields key v with
    | nil => exact absurd h this
    | cons _ _ => rfl
  unfold withVal Ctx.getWithKw Ctx.sidOfFields
  -- `x` has fields, so `get_with` overlays them and rebuilds the Sid from the (non-empty) result
  simp only [hxf, Bool.and_false, Bool.false_eq_true, if_false, UpdL.overlayKw_one, hne]
  rw [hd.dictToSid_eq d.ctx (HierL.hier_table hwf) hsl hr]
  simp only []
  have hz : (K.zip vals).isEmpty = false := by
    cases hzv : K.zip vals with
    | nil => exact absurd (hzv ▸ hd.perm).eq_nil (hd.ne_nil hK)
    | cons _ _ => rfl
  have hany : typedAs d.ctx K (Str.joinWith '/' vals) = (d.ctx.cfg.sid.templates.find?
      (fun a => keysOf a.2 == K && accepts d.ctx.env a.2 (Str.joinWith '/' vals))).isSome := by
    rw [Bool.eq_iff_iff, List.find?_isSome]
    exact List.any_eq_true
  rw [hany]
  cases d.ctx.cfg.sid.templates.find?
      (fun a => keysOf a.2 == K && accepts d.ctx.env a.2 (Str.joinWith '/' vals)) with
  | none => simp [Sid.typed, Sid.empty]
  | some a => simp [Sid.typed, hz]

theorem withVal_untyped (fr key v : Str) (hne : fr ≠ []) :
    withVal d key (Sid.untyped fr) v = .ok [] := by
  have : fr.isEmpty = false := by simp [hne]
  simp [withVal, Ctx.getWithKw, Sid.untyped, this, Sid.typed, Sid.empty]

end withVal

/-! ### the value appended at / after the last key -/

theorem renderable_snoc (ps : List Str) (v : Str) (hne : v ≠ []) (hnl : '\n' ∉ v) :
    renderable (Str.joinWith '/' (ps ++ [v])) := by
  obtain ⟨a, ha⟩ := Str.joinWith_last '/' (ps ++ [v]) (by simp)
  rw [ha]
  have hl : (ps ++ [v]).getLast (by simp) = v := by simp
  rw [hl]
  constructor
  · intro h0
    have := congrArg List.length h0
    cases v with
    | nil => exact hne rfl
    | cons _ _ => simp at this
  · rw [List.getLast?_append]
    cases hv : v.getLast? with
    | none =>
      rw [List.getLast?_eq_none_iff] at hv
      exact absurd hv hne
    | some ch =>
      simp only [Option.some_or]
      intro h
      injection h with h
      subst h
      exact hnl (List.mem_of_getLast? hv)

theorem keyAppends_unpack (ts : List (Str × Template)) (key : Str) (h : keyAppends ts key = true) :
    ∀ a ∈ ts, ∀ b ∈ ts, key ∉ keysOf a.2 → (∀ k, k ∈ keysOf b.2 ↔ k ∈ keysOf a.2 ++ [key]) →
      keysOf b.2 = keysOf a.2 ++ [key] := by
  intro a ha b hb hka hk
  simp only [keyAppends, List.all_eq_true, Bool.or_eq_true, Bool.not_eq_true', beq_iff_eq] at h
  rcases h a ha b hb with h | h
  · exfalso
    have h1 : (keysOf b.2).all (fun k => k == key || (keysOf a.2).contains k) = true := by
      simp only [List.all_eq_true, Bool.or_eq_true, beq_iff_eq, List.contains_iff_mem]
      intro k hk'
      have := (hk k).1 hk'
      simp only [List.mem_append, List.mem_singleton] at this
      exact this.symm
    have h2 : (keysOf a.2).all (fun k => (keysOf b.2).contains k) = true := by
      simp only [List.all_eq_true, List.contains_iff_mem]
      intro k hk'
      exact (hk k).2 (by simp [hk'])
    have h3 : (keysOf b.2).contains key = true := by
      simp only [List.contains_iff_mem]
      exact (hk key).2 (by simp)
    have h0 : (keysOf a.2).contains key = false := by
      simpa [List.contains_iff_mem] using hka
    rw [h0, h1, h2, h3] at h
    cases h
  · exact h

section

variable (d : DCtx)

/-- `_append_value(root)` for one value, `key` being the LAST key of the well-typed `root`.
    `Dict.set` is an explicit `zip` (`TypedBy.set_last`; `fieldsOf_set_new` in `withVal_child`),
    which gives `DictOf`, to which `withVal_of_dictOf` applies. -/
theorem withVal_last (hwf : sidHierOk d.ctx.env d.ctx.cfg.sid.templates = true) (root : Sid)
    (hr : wellTyped d.ctx.env d.ctx.cfg.sid.templates root) (key : Str)
    (hlast : (root.fields.map (·.1)).getLast? = some key) (v : Str) (hv : constValOk v = true) :
    withVal d key root v =
      .ok (if typedAs d.ctx (root.fields.map (·.1)) (replaceLast root.string v)
           then [replaceLast root.string v] else []) := by
  have h1 := HierL.hier_table hwf
  obtain ⟨t, ht, _⟩ := HierL.wellTyped_typedBy hr
  have hnd := ht.keysOf_nodup h1
  rw [ht.keys] at hlast ⊢
  obtain ⟨hvne, hvsl, hvnl⟩ := (constValOk_iff v).1 hv
  have hlen : ((Str.splitOn '/' root.string).dropLast ++ [v]).length = (keysOf t).length := by
    have := List.length_pos_iff.2 (ht.keysOf_ne_nil h1)
    rw [List.length_append, List.length_dropLast, ht.segs_length, List.length_singleton]
    omega
  have hd : HierL.DictOf d.ctx.cfg.sid.templates (keysOf t)
      ((Str.splitOn '/' root.string).dropLast ++ [v]) (Dict.set root.fields key v) :=
    HierL.DictOf.of_ref hwf hnd hlen (by rw [ht.set_last hnd hlast v]) ⟨_, ht.mem, rfl⟩
  exact withVal_of_dictOf d hwf root (ht.typed h1) key v _ _ hd (ht.keysOf_ne_nil h1)
    (Str.segs_snoc_not_mem root.string _ (List.dropLast_subset _) v hvsl) (renderable_snoc _ v hvne hvnl)

/-- `_append_value(Sid(fr))` for one value, `key` NOT among the keys of `Sid(fr)` -/
theorem withVal_child (hwf : sidHierOk d.ctx.env d.ctx.cfg.sid.templates = true) (key : Str)
    (hka : keyAppends d.ctx.cfg.sid.templates key = true) (fr : Str) (hne : fr ≠ [])
    (hk : key ∉ keysOfStr d.ctx fr) (v : Str) (hv : constValOk v = true) :
    withVal d key (ExpL.plainOf d.ctx fr) v =
      .ok (if admitsChild d.ctx key fr v then [fr ++ '/' :: v] else []) := by
  have h1 := HierL.hier_table hwf
  obtain ⟨hvne, hvsl, hvnl⟩ := (constValOk_iff v).1 hv
  have hfe : fr.isEmpty = false := by simp [hne]
  unfold ExpL.plainOf plainSid admitsChild
  unfold keysOfStr at hk
  simp only [hfe, Bool.false_eq_true, if_false]
  cases hfa : firstAccepting d.ctx.env d.ctx.cfg.sid.templates fr with
  | none =>
    simp only [Bool.false_eq_true, if_false]
    exact withVal_untyped d fr key v hne
  | some a =>
    obtain ⟨l, t⟩ := a
    rw [hfa] at hk
    simp only at hk ⊢
    obtain ⟨hmem, hacc⟩ := SidL.firstAccepting_inv _ _ _ _ _ hfa
    have ht : HierL.TypedBy d.ctx.env d.ctx.cfg.sid.templates ⟨fr, l, fieldsOf t fr⟩ t :=
      ⟨hmem, hacc, rfl⟩
    have hnd := ht.keysOf_nodup h1
    have hlen : (Str.splitOn '/' fr).length = (keysOf t).length := ht.segs_length
    have hty := ht.typed h1
    have hset := HierL.fieldsOf_set_new t fr key v hlen hk
    have hjoin : Str.joinWith '/' (Str.splitOn '/' fr ++ [v]) = fr ++ '/' :: v := by
      rw [Str.joinWith_concat '/' _ v (Str.splitOn_ne_nil '/' fr), Str.join_split]
    -- by the convention `keyAppends`, a template with the key set of the overlaid dictionary
    -- lists the keys of `t` followed by `key`
    have hd : HierL.DictOf d.ctx.cfg.sid.templates (keysOf t ++ [key])
        (Str.splitOn '/' fr ++ [v]) (Dict.set (fieldsOf t fr) key v) :=
      { nodup := (Lst.nodup_snoc _ _).2 ⟨hnd, hk⟩
        len := by simp [hlen]
        perm := by rw [hset]
        sameKeys := fun b hb hkb =>
          keyAppends_unpack _ key hka (l, t) hmem b hb hk fun k => by
            rw [Dict.keysEq_iff, hset, List.map_fst_zip (by simp [hlen])] at hkb
            exact (hkb k).symm }
    have := withVal_of_dictOf d hwf ⟨fr, l, fieldsOf t fr⟩ hty key v _ _ hd (by simp)
      (Str.segs_snoc_not_mem fr _ (fun _ h => h) v hvsl) (renderable_snoc _ v hvne hvnl)
    rw [hjoin] at this
    exact this

theorem appendValues_last (hwf : sidHierOk d.ctx.env d.ctx.cfg.sid.templates = true) (root : Sid)
    (hr : wellTyped d.ctx.env d.ctx.cfg.sid.templates root) (key : Str)
    (hlast : (root.fields.map (·.1)).getLast? = some key) (values : List Str)
    (hv : values.all constValOk = true) :
    d.appendValues key values root =
      .ok ((values.filter (fun v => typedAs d.ctx (root.fields.map (·.1)) (replaceLast root.string v))).map
        (replaceLast root.string)) :=
  (appendValues_eq d key values root).trans <| Ctx.flatMapE_filter _ _ _ values
    (fun v hvm => withVal_last d hwf root hr key hlast v (List.all_eq_true.1 hv v hvm))

theorem appendValues_child (hwf : sidHierOk d.ctx.env d.ctx.cfg.sid.templates = true) (key : Str)
    (hka : keyAppends d.ctx.cfg.sid.templates key = true) (fr : Str) (hne : fr ≠ [])
    (hk : key ∉ keysOfStr d.ctx fr) (values : List Str) (hv : values.all constValOk = true) :
    d.appendValues key values (ExpL.plainOf d.ctx fr) =
      .ok ((values.filter (admitsChild d.ctx key fr)).map (fun v => fr ++ '/' :: v)) :=
  (appendValues_eq d key values _).trans <| Ctx.flatMapE_filter _ _ _ values
    (fun v hvm => withVal_child d hwf key hka fr hne hk v (List.all_eq_true.1 hv v hvm))

/-! ### one found root -/

/-- the key's value is fixed in the search: `found_root / value`, whatever its type -/
theorem perRoot_fixed (h1 : sidTableOk d.ctx.env d.ctx.cfg.sid.templates = true) (key : Str)
    (values : List Str) (root : Sid) (v : Str) (hv : root.fields.get key = some v)
    (hvs : v ≠ ['*']) (hvq : '?' ∉ v) (hvc : ':' ∉ v) (fr : Str) (hq : '?' ∉ fr) (hc : ':' ∉ fr) :
    perRoot d key values root fr = .ok [fr ++ '/' :: v] := by
  have hb : (v != ['*']) = true := by simpa using hvs
  unfold perRoot Ctx.div
  rw [ExpL.sidOfString_plain d.ctx h1 fr hq hc]
  simp only [hv, hb, if_true, ExpL.plainOf_string]
  rw [ExpL.sidOfString_plain d.ctx h1 (fr ++ '/' :: v)
    (by simp only [List.mem_append, List.mem_cons, not_or]; exact ⟨hq, by decide, hvq⟩)
    (by simp only [List.mem_append, List.mem_cons, not_or]; exact ⟨hc, by decide, hvc⟩)]
  simp only [ExpL.plainOf_string]

theorem perRoot_star (hwf : sidHierOk d.ctx.env d.ctx.cfg.sid.templates = true) (key : Str)
    (hka : keyAppends d.ctx.cfg.sid.templates key = true)
    (values : List Str) (hvals : values.all constValOk = true) (root : Sid)
    (hv : root.fields.get key = some ['*']) (fr : Str) (hne : fr ≠ []) (hq : '?' ∉ fr)
    (hc : ':' ∉ fr) (hk : key ∉ keysOfStr d.ctx fr) :
    perRoot d key values root fr =
      .ok ((values.filter (admitsChild d.ctx key fr)).map (fun v => fr ++ '/' :: v)) := by
  unfold perRoot
  rw [ExpL.sidOfString_plain d.ctx (HierL.hier_table hwf) fr hq hc]
  simp only [hv, bne_self_eq_false, Bool.false_eq_true, if_false]
  exact appendValues_child d hwf key hka fr hne hk values hvals

/-! ### the parent of the root -/

theorem parentStr_eq_take {e : Env} {ts : List (Str × Template)} {x : Sid} {t : Template}
    (h : HierL.TypedBy e ts x t) : parentStr x.string =
      Str.joinWith '/' ((Str.splitOn '/' x.string).take (x.fields.length - 1)) := by
  rw [parentStr, List.dropLast_eq_take, h.segs_length, h.fields_length]

theorem parent_ge2 (c : Ctx) (hwf : sidHierOk c.env c.cfg.sid.templates = true) (root : Sid)
    (hr : wellTyped c.env c.cfg.sid.templates root) (hn : 2 ≤ root.fields.length)
    (hren : renderable (parentStr root.string)) :
    ∃ rp, c.parent root = .ok rp ∧ wellTyped c.env c.cfg.sid.templates rp ∧
      rp.string = parentStr root.string ∧ rp.fields = root.fields.dropLast ∧
      Sid.eqv root rp = false ∧ (∃ last, rp.string ++ '/' :: last = root.string) := by
  obtain ⟨h1, _, _, hplain⟩ := HierL.hier_unpack _ _ hwf
  obtain ⟨t, ht, _⟩ := HierL.wellTyped_typedBy hr
  have hps := parentStr_eq_take ht
  obtain ⟨rp, hp1, _, hp3, hp4, hp5, hp6⟩ := HierL.parent_of_wellTyped c hwf root hr hn (by rw [← hps]; exact hren)
  refine ⟨rp, hp1, hp3, by rw [hp5, hps], by rw [hp4, List.dropLast_eq_take], ?_, ⟨_, hp6⟩⟩
  cases he : Sid.eqv root rp with
  | false => rfl
  | true =>
    exfalso
    have huri : root.uri = rp.uri := by simpa [Sid.eqv] using he
    obtain ⟨t', ht', _⟩ := HierL.wellTyped_typedBy hp3
    have := (C14.c14_uri_inj root rp (hplain _ ht.mem).1 (hplain _ ht'.mem).1
      (fun h => absurd h (ht.type_ne_nil h1)) (fun h => absurd h (ht'.type_ne_nil h1)) huri).2
    have hl2 := congrArg List.length hp6
    rw [this] at hl2
    simp at hl2

end

end AllL
