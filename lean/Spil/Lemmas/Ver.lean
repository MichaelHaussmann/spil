/-
  Spil.Lemmas.Ver — reading a rendered version back: `DCtx.parseNat` of `Str.pad3`, the digits
  after the 'v' of a version value, and `DCtx.nextVersion` split into the digits it reads and what
  it makes of them.
-/
import Spil.Model.FS
import Spil.Lemmas.Str
import Spil.Lemmas.Digits

namespace DCtx

open Str

/-- `int()` of three ASCII digits -/
theorem parseNat_three (a b c : Nat) (ha : a < 10) (hb : b < 10) (hc : c < 10) :
    parseNat [digitChar a, digitChar b, digitChar c] = some (a * 100 + b * 10 + c) := by
  simp only [parseNat, List.foldl]
  simp [digitChar_digit, digitChar_toNat, ha, hb, hc]
  omega

theorem parseNat_pad3 (n : Nat) (h : n < 1000) : parseNat (pad3 n) = some n := by
  rw [pad3_lt n h, parseNat_three _ _ _ (by omega) (by omega) (by omega)]
  congr 1
  omega

end DCtx

namespace Str

/-- `('v' + digits).split('v')[-1]` -/
theorem splitOn_v_pad3 (n : Nat) (h : n < 1000) :
    (splitOn 'v' ('v' :: pad3 n)).getLast? = some (pad3 n) := by
  simp [splitOn, splitOn_of_not_mem 'v' (pad3 n) (fun hv => absurd (pad3_digits n h 'v' hv).2 (by decide))]

end Str

namespace C18

/-- the key the demo `NextGetter` counts up: every statement of C18 is about its value -/
def vkey : Str := ['v','e','r','s','i','o','n']

/-- `'v%03d' % n` -/
def fmtV (n : Nat) : Str := 'v' :: Str.pad3 n

end C18

namespace DCtx

open Str C18

/-! ### `nextVersion` in two halves -/

variable (d : DCtx) (w : World) (x : Sid)

/-- the digits `NextGetter` counts up: the `digits` block of `nextVersion` -/
def versionDigits : Except Err Str :=
  let cur := (x.fields.get vkey).getD []
  if cur.isEmpty then .ok ['0'] else
  if cur == ['*'] || cur == ['>'] then
    match d.getLast w x (some vkey) with
    | .error e => .error e
    | .ok l =>
      let lv := (l.fields.get vkey).getD []
      let lv := if lv.isEmpty then fmtV 0 else lv
      let tail := ((splitOn 'v' lv).getLast?).getD []
      .ok (if tail.isEmpty then ['0'] else tail)
  else .ok (((splitOn 'v' cur).getLast?).getD [])

/-- from the digits to the next Sid: the out-of-model guard, `int()`, `get_with` -/
def fromDigits (ds : Str) : Except Err Sid :=
  if ds.any (fun c => !('0' ≤ c && c ≤ '9')) && !ds.isEmpty &&
      ds.all (fun c => c.toNat > 127 || ('0' ≤ c && c ≤ '9')) then .error .oom else
  match parseNat ds with
  | none => .error .value
  | some n => d.ctx.getWithKw x [(vkey, some (fmtV (n + 1)))]

theorem nextVersion_eq : d.nextVersion w x = (d.versionDigits w x).bind (d.fromDigits x) := by
  have : d.nextVersion w x = match d.versionDigits w x with
      | .error e => .error e
      | .ok ds => d.fromDigits x ds := rfl
  rw [this]
  cases d.versionDigits w x <;> rfl

theorem fromDigits_pad3 (n : Nat) (hn : n < 1000) :
    d.fromDigits x (pad3 n) = d.ctx.getWithKw x [(vkey, some (fmtV (n + 1)))] := by
  unfold fromDigits
  rw [pad3_any_not_digit n hn, parseNat_pad3 n hn]
  rfl

theorem fromDigits_zero : d.fromDigits x ['0'] = d.ctx.getWithKw x [(vkey, some (fmtV 1))] := rfl

theorem versionDigits_missing (h : x.fields.get vkey = none ∨ x.fields.get vkey = some []) :
    d.versionDigits w x = .ok ['0'] := by
  rcases h with h | h <;> simp only [versionDigits, h] <;> rfl

theorem versionDigits_concrete (n : Nat) (hn : n < 1000) (h : x.fields.get vkey = some (fmtV n)) :
    d.versionDigits w x = .ok (pad3 n) := by
  have h1 : (('v' :: pad3 n) == ['*'] || ('v' :: pad3 n) == ['>']) = false := by simp
  simp only [versionDigits, h, Option.getD_some, h1, fmtV, List.isEmpty_cons, Bool.false_eq_true,
    if_false, splitOn_v_pad3 n hn]

theorem versionDigits_search (l : Sid) (n : Nat) (hn : n < 1000)
    (hv : x.fields.get vkey = some ['*'] ∨ x.fields.get vkey = some ['>'])
    (hl : d.getLast w x (some vkey) = .ok l)
    (hlv : l.fields.get vkey = some (fmtV n) ∨ (l.fields.get vkey = none ∧ n = 0)) :
    d.versionDigits w x = .ok (pad3 n) := by
  have he : (pad3 n).isEmpty = false := List.isEmpty_eq_false_iff.2 (pad3_ne_nil n)
  -- the version read off the last Sid, with the 'v000' default, is the rendering of `n`
  have hlast : (if ((l.fields.get vkey).getD []).isEmpty then fmtV 0 else (l.fields.get vkey).getD []) =
      'v' :: pad3 n := by
    rcases hlv with h | ⟨h, rfl⟩ <;> rw [h] <;> rfl
  rcases hv with hv | hv <;>
    simp only [versionDigits, hv, hl, hlast, Option.getD_some, List.isEmpty_cons, Bool.false_eq_true,
      if_false, splitOn_v_pad3 n hn, he] <;> rfl

end DCtx
