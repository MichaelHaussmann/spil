/-
  Spil.Lemmas.Digits — `Str.natDigits` / `Str.pad3`: the three-digit normal form below 1000 and what
  follows from it (length, digits, order), the width from 1000 on.
-/
import Spil.Model.Str

namespace Str

def digitChar (k : Nat) : Char := Char.ofNat (48 + k)

theorem digitChar_toNat (k : Nat) (h : k < 10) : (digitChar k).toNat = 48 + k := by
  have hv : (48 + k).isValidChar := Or.inl (by omega)
  unfold digitChar Char.ofNat
  rw [dif_pos hv]; rfl

theorem char_le_iff (a b : Char) : a ≤ b ↔ a.toNat ≤ b.toNat := by
  rw [Char.le_def, UInt32.le_iff_toNat_le]; rfl

theorem digitChar_digit (k : Nat) (h : k < 10) : '0' ≤ digitChar k ∧ digitChar k ≤ '9' := by
  rw [char_le_iff, char_le_iff, digitChar_toNat k h]
  exact ⟨Nat.le_add_right 48 k, show 48 + k ≤ 57 by omega⟩

theorem natDigits_succ (fuel n : Nat) :
    natDigits (fuel + 1) n =
      if n < 10 then [digitChar n] else natDigits fuel (n / 10) ++ [digitChar (n % 10)] := rfl

theorem pad3_lt (n : Nat) (h : n < 1000) :
    pad3 n = [digitChar (n / 100), digitChar (n / 10 % 10), digitChar (n % 10)] := by
  have hz : ('0' : Char) = digitChar 0 := rfl
  unfold pad3
  by_cases h1 : n < 10
  · rw [natDigits_succ, if_pos h1, hz, show n / 100 = 0 by omega, show n / 10 % 10 = 0 by omega,
      show n % 10 = n by omega]; rfl
  · obtain ⟨f, rfl⟩ : ∃ f, n = f + 1 := ⟨n - 1, by omega⟩
    rw [natDigits_succ, if_neg h1, natDigits_succ]
    by_cases h2 : (f + 1) / 10 < 10
    · rw [if_pos h2, hz, show (f + 1) / 100 = 0 by omega, show (f + 1) / 10 % 10 = (f + 1) / 10 by omega]; rfl
    · obtain ⟨g, rfl⟩ : ∃ g, f = g + 1 := ⟨f - 1, by omega⟩
      rw [if_neg h2, natDigits_succ, if_pos (by omega), show (g + 1 + 1) / 10 / 10 = (g + 1 + 1) / 100 by omega]
      rfl

theorem pad3_length (n : Nat) (h : n < 1000) : (pad3 n).length = 3 := by
  rw [pad3_lt n h]; rfl

theorem digit_of_mem_pad3 (n : Nat) (h : n < 1000) (ch : Char) (hch : ch ∈ pad3 n) :
    ∃ k, k < 10 ∧ ch = digitChar k := by
  rw [pad3_lt n h] at hch
  simp only [List.mem_cons, List.not_mem_nil, or_false] at hch
  rcases hch with rfl | rfl | rfl
  · exact ⟨_, by omega, rfl⟩
  · exact ⟨_, by omega, rfl⟩
  · exact ⟨_, by omega, rfl⟩

theorem pad3_digits (n : Nat) (h : n < 1000) : ∀ ch ∈ pad3 n, '0' ≤ ch ∧ ch ≤ '9' := by
  intro ch hch
  obtain ⟨k, hk, rfl⟩ := digit_of_mem_pad3 n h ch hch
  exact digitChar_digit k hk

/-- the out-of-model guard of `nextVersion` never fires on a rendered number -/
theorem pad3_any_not_digit (n : Nat) (hn : n < 1000) :
    (pad3 n).any (fun c => !('0' ≤ c && c ≤ '9')) = false := by
  rw [List.any_eq_false]
  intro ch hch
  have := pad3_digits n hn ch hch
  simp [this.1, this.2]

theorem pad3_ne_nil (n : Nat) : pad3 n ≠ [] := by
  intro e
  have h1 : (pad3 n).length = 0 := by rw [e]; rfl
  unfold pad3 at h1
  simp only [List.length_append, List.length_replicate] at h1
  omega

/-- `pad3 n` calls `natDigits` with `fuel = n + 1` -/
theorem natDigits_length (fuel : Nat) : ∀ n k, n < fuel → 10 ^ k ≤ n → k + 1 ≤ (natDigits fuel n).length := by
  induction fuel with
  | zero => intro n k h; omega
  | succ f ih =>
    intro n k hf hk
    rw [natDigits_succ]
    cases k with
    | zero => split <;> simp
    | succ k' =>
      have hk' : 10 * 10 ^ k' ≤ n := by rw [Nat.pow_succ, Nat.mul_comm] at hk; exact hk
      have : 1 ≤ 10 ^ k' := Nat.one_le_pow k' 10 (by omega)
      rw [if_neg (by omega), List.length_append]
      have := ih (n / 10) k' (by omega) (by omega)
      simp only [List.length_cons, List.length_nil]
      omega

theorem pad3_wide (n : Nat) (h : 1000 ≤ n) : 4 ≤ (pad3 n).length := by
  have := natDigits_length (n + 1) n 3 (by omega) (by simpa using h)
  unfold pad3
  simp only [List.length_append, List.length_replicate]
  omega

theorem lt_digit_cons (a b : Nat) (ha : a < 10) (hb : b < 10) (s t : Str) :
    lt (digitChar a :: s) (digitChar b :: t) =
      if a < b then true else if b < a then false else lt s t := by
  simp only [lt, digitChar_toNat a ha, digitChar_toNat b hb, Nat.add_lt_add_iff_left, gt_iff_lt]

theorem lt_pad3 (n m : Nat) (hn : n < 1000) (hm : m < 1000) :
    lt (pad3 n) (pad3 m) = true ↔ n < m := by
  rw [pad3_lt n hn, pad3_lt m hm, lt_digit_cons _ _ (by omega) (by omega),
    lt_digit_cons _ _ (by omega) (by omega), lt_digit_cons _ _ (by omega) (by omega)]
  -- one step of the lexicographic comparison, as three implications `omega` can use
  have key : ∀ (x y : Nat) (r : Bool) (P : Prop),
      ((if x < y then true else if y < x then false else r) = true ↔ P) ↔
        (x < y → P) ∧ (y < x → ¬ P) ∧ (x = y → (r = true ↔ P)) := by
    intro x y r P
    rcases Nat.lt_trichotomy x y with h | h | h
    · simp [h, Nat.lt_asymm h, Nat.ne_of_lt h]
    · simp [h]
    · simp [h, Nat.lt_asymm h, Nat.ne_of_gt h]
  simp only [key, lt, Bool.false_eq_true, false_iff]
  omega

theorem pad3_one : pad3 1 = ['0', '0', '1'] := by decide

end Str
