/-
  Spil.Lemmas.DenoteAlg — helper lemmas for C10b: what a rewrite rule of the search syntax says
  (`C10.Covers`, at the level of the plain strings an expression stands for) and what it gives for
  `Spec.Denotes`, `Spec.Malformed`, `Spec.ExprOk`; the rules (or) and (alias) in that form.
-/
import Spil.Spec.Denote
import Spil.Lemmas.DenoteMain

/-- WHAT A REWRITE RULE SAYS: the expressions `S i` (`i` with `P i`) are free of the markers and
    together stand for the plain strings `s` stands for -/
structure C10.Covers (c : Ctx) (s : Str) {ι : Type} (P : ι → Prop) (S : ι → Str) : Prop where
  free : ∀ i, P i → ∀ m ∈ DenL.marks, ¬ m <:+: S i
  picks : ∀ a, Spec.Picks c s a ↔ ∃ i, P i ∧ Spec.Picks c (S i) a

namespace DenL

open Spec Ctx C10

/-! ### replacing a segment -/

theorem segAt_mem (s : Str) (i : Nat) (hi : i < (Str.splitOn '/' s).length) :
    segAt s i ∈ Str.splitOn '/' s := by
  unfold segAt
  rw [List.getElem?_eq_getElem hi]
  exact List.getElem_mem hi

theorem alt_noSlash (s : Str) (i : Nat) (hi : i < (Str.splitOn '/' s).length) (alt : Str)
    (h : alt ∈ altsOf (segAt s i)) : '/' ∉ alt :=
  altsOf_not_mem '/' _ (Str.splitOn_not_mem '/' s _ (segAt_mem s i hi)) alt h

theorem splitOn_setSeg (s : Str) (i : Nat) (v : Str) (hv : '/' ∉ v) :
    Str.splitOn '/' (setSeg s i v) = (Str.splitOn '/' s).set i v := by
  unfold setSeg
  apply Str.split_join
  · intro h
    have := congrArg List.length h
    simp only [List.length_set, List.length_nil] at this
    exact Str.splitOn_ne_nil '/' s (List.length_eq_zero_iff.1 this)
  · intro p hp
    rcases List.mem_or_eq_of_mem_set hp with h | rfl
    · exact Str.splitOn_not_mem '/' s p h
    · exact hv

theorem infix_setSeg_val (s : Str) (i : Nat) (v m : Str) (hM : Marker m)
    (h : m <:+: setSeg s i v) : m <:+: s ∨ m <:+: v := by
  obtain ⟨p, hp, hip⟩ := (Str.infix_joinWith_iff '/' m hM.noSlash hM.ne _).1 h
  rcases List.mem_or_eq_of_mem_set hp with hp | rfl
  · exact Or.inl (hip.trans (Str.splitOn_infix '/' s p hp))
  · exact Or.inr hip

theorem infix_setSeg (s : Str) (i : Nat) (hi : i < (Str.splitOn '/' s).length) (alt : Str)
    (halt : alt ∈ altsOf (segAt s i)) (m : Str) (hM : Marker m)
    (h : m <:+: setSeg s i alt) : m <:+: s :=
  (infix_setSeg_val s i alt m hM h).elim id fun h =>
    (h.trans (altsOf_infix _ _ halt)).trans (Str.splitOn_infix '/' s _ (segAt_mem s i hi))

/-! ### `ExprOk` passes to a marker-free expression that stands for fewer plain strings -/

theorem exprOk_iff (c : Ctx) (s : Str) : ExprOk c s ↔ (∀ m ∈ marks, ¬ m <:+: s) ∧ Rooted c s := by
  rw [marks_free_iff]
  exact ⟨fun h => ⟨⟨h.noQuery, h.noColon, (Str.isInfix_eq_false_iff _ _).1 h.noMark⟩, h.rooted⟩,
    fun ⟨⟨h1, h2, h3⟩, h4⟩ => ⟨h1, h2, (Str.isInfix_eq_false_iff _ _).2 h3, h4⟩⟩

theorem exprOk_of_picks {c : Ctx} {s s' : Str} (hS : ExprOk c s) (hfree : ∀ m ∈ marks, ¬ m <:+: s')
    (hsub : ∀ a, Picks c s' a → Picks c s a) : ExprOk c s' :=
  (exprOk_iff c s').2 ⟨hfree, fun a hp => hS.rooted a (hsub a hp)⟩

/-! ### a rewrite rule (`C10.Covers`)

What an expression denotes and whether it is malformed are read off its plain strings, so a rule
about the plain strings passes to them. -/

section cover

variable {c : Ctx} {s : Str} {ι : Type} {P : ι → Prop} {S : ι → Str}

theorem exists_picks_cover (h : ∀ a, Picks c s a ↔ ∃ i, P i ∧ Picks c (S i) a) (Q : Str → Prop) :
    (∃ a, Picks c s a ∧ Q a) ↔ ∃ i, P i ∧ ∃ a, Picks c (S i) a ∧ Q a := by
  constructor
  · rintro ⟨a, hp, hq⟩
    obtain ⟨i, hi, hp'⟩ := (h a).1 hp
    exact ⟨i, hi, a, hp', hq⟩
  · rintro ⟨i, hi, a, hp, hq⟩
    exact ⟨a, (h a).2 ⟨i, hi, hp⟩, hq⟩

variable (hcov : Covers c s P S)

include hcov

theorem _root_.C10.Covers.denotes (y : Sid) : Denotes c s y ↔ ∃ i, P i ∧ Denotes c (S i) y :=
  exists_picks_cover hcov.picks (DenotesPlain c · y)

theorem _root_.C10.Covers.malformed : Malformed c s ↔ ∃ i, P i ∧ Malformed c (S i) :=
  exists_picks_cover hcov.picks (MalformedPlain c)

theorem _root_.C10.Covers.exprOk (hS : ExprOk c s) (i : ι) (hi : P i) : ExprOk c (S i) :=
  exprOk_of_picks hS (hcov.free i hi) fun a hp => (hcov.picks a).2 ⟨i, hi, hp⟩

end cover

/-! ### (or) -/

theorem picks_or (c : Ctx) (s : Str) (i : Nat) (hi : i < (Str.splitOn '/' s).length) (a : Str) :
    Picks c s a ↔ ∃ alt ∈ altsOf (segAt s i), Picks c (setSeg s i alt) a := by
  simp only [picks_iff_choice]
  constructor
  · rintro ⟨picks, hc, rest⟩
    obtain ⟨alt, halt, hc'⟩ := (choice_set _ i hi picks).1 hc
    exact ⟨alt, halt, picks, by rwa [splitOn_setSeg s i alt (alt_noSlash s i hi alt halt)], rest⟩
  · rintro ⟨alt, halt, picks, hc, rest⟩
    rw [splitOn_setSeg s i alt (alt_noSlash s i hi alt halt)] at hc
    exact ⟨picks, (choice_set _ i hi picks).2 ⟨alt, halt, hc⟩, rest⟩

theorem or_covers (c : Ctx) (s : Str) (hS : ExprOk c s) (i : Nat) (hi : i < (Str.splitOn '/' s).length) :
    Covers c s (· ∈ altsOf (segAt s i)) (setSeg s i) where
  free := fun alt halt m hm h => ((exprOk_iff c s).1 hS).1 m hm
    (infix_setSeg s i hi alt halt m (marks_marker m hm) h)
  picks := picks_or c s i hi

/-! ### (alias) -/

theorem aliasFlat_unpack (sc : SidConf) (h : aliasFlat sc = true) (k : Str) (vs : List Str)
    (hl : sc.extensionAlias.lookup k = some vs) : ∀ v ∈ vs, sc.extensionAlias.lookup v = none := by
  have hm := Lst.lookup_mem _ _ _ hl
  unfold aliasFlat at h
  rw [List.all_eq_true] at h
  have := h (k, vs) hm
  simp only [List.all_eq_true, Option.isNone_iff_eq_none] at this
  exact this

theorem lastAlts_alias (c : Ctx) (al : Str) (vs : List Str) (hc : ',' ∉ al)
    (hl : c.cfg.sid.extensionAlias.lookup al = some vs) (l : Str) : l ∈ lastAlts c al ↔ l ∈ vs := by
  simp [lastAlts, altsOf_of_noComma al hc, hl]

theorem lastAlts_exts (c : Ctx) (hal : aliasOk c.cfg.sid = true) (hfl : aliasFlat c.cfg.sid = true)
    (al : Str) (vs : List Str) (hl : c.cfg.sid.extensionAlias.lookup al = some vs) (l : Str) :
    l ∈ lastAlts c (Str.joinWith ',' vs) ↔ l ∈ vs := by
  obtain ⟨_, hne, hvs⟩ := aliasOk_entry _ hal hl
  have hflat := aliasFlat_unpack _ hfl _ _ hl
  have hmem := mem_altsOf_join vs hne (fun e he => (hvs e he).noComma) (fun _ e he => (hvs e he).stripped)
  simp only [lastAlts, List.mem_flatMap]
  constructor
  · rintro ⟨v, hv, hlv⟩
    have hv' := (hmem v).1 hv
    rw [hflat v hv'] at hlv
    simp only [Option.getD_none, List.mem_singleton] at hlv
    subst hlv; exact hv'
  · intro hlv
    exact ⟨l, (hmem l).2 hlv, by rw [hflat l hlv]; simp⟩

/-- (alias) at the level of plain strings -/
theorem picks_alias (c : Ctx) (hal : aliasOk c.cfg.sid = true) (hfl : aliasFlat c.cfg.sid = true)
    (s : Str) (vs : List Str) (hc : ',' ∉ lastSeg s)
    (hl : c.cfg.sid.extensionAlias.lookup (lastSeg s) = some vs) (a : Str) :
    Picks c s a ↔ Picks c (setSeg s (lastIdx s) (Str.joinWith ',' vs)) a := by
  have hns : '/' ∉ Str.joinWith ',' vs := by
    intro h
    obtain ⟨v, hv, hcv⟩ := (Str.mem_joinWith ',' '/' vs (by decide)).1 h
    exact ((aliasOk_entry _ hal hl).ext v hv).noSlash hcv
  have hset : (Str.splitOn '/' s).set (lastIdx s) (Str.joinWith ',' vs) =
      (Str.splitOn '/' s).dropLast ++ [Str.joinWith ',' vs] := by
    conv => lhs; rw [parts_decomp s]
    simp [lastIdx]
  have hiff : ∀ l, l ∈ lastAlts c (lastSeg s) ↔ l ∈ lastAlts c (Str.joinWith ',' vs) := fun l =>
    (lastAlts_alias c _ vs hc hl l).trans (lastAlts_exts c hal hfl _ vs hl l).symm
  unfold Picks
  rw [splitOn_setSeg s _ _ hns, hset, List.dropLast_concat, List.getLast?_concat]
  constructor
  · rintro ⟨picks, l, hpi, hl', rfl⟩
    exact ⟨picks, l, hpi, (hiff l).1 hl', rfl⟩
  · rintro ⟨picks, l, hpi, hl', rfl⟩
    exact ⟨picks, l, hpi, (hiff l).2 hl', rfl⟩

theorem infix_setSeg_alias (s : Str) (vs : List Str) (m : Str) (hM : Marker m)
    (h : m <:+: setSeg s (lastIdx s) (Str.joinWith ',' vs)) : m <:+: s ∨ ∃ v ∈ vs, m <:+: v :=
  (infix_setSeg_val s _ _ m hM h).imp_right
    (Str.infix_joinWith_iff ',' m hM.noComma hM.ne vs).1

theorem alias_exprOk (c : Ctx) (hal : aliasOk c.cfg.sid = true) (hfl : aliasFlat c.cfg.sid = true)
    (s : Str) (hS : ExprOk c s) (vs : List Str) (hcm : ',' ∉ lastSeg s)
    (hl : c.cfg.sid.extensionAlias.lookup (lastSeg s) = some vs) :
    ExprOk c (setSeg s (lastIdx s) (Str.joinWith ',' vs)) :=
  exprOk_of_picks hS
    (fun m hm h =>
      (infix_setSeg_alias s vs m (marks_marker m hm) h).elim (((exprOk_iff c s).1 hS).1 m hm)
        fun ⟨v, hv, hi⟩ => aliasOk_free c hal m hm ⟨_, vs, v, hl, hv, hi⟩)
    fun a => (picks_alias c hal hfl s vs hcm hl a).2

end DenL
