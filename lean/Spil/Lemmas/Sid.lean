/-
  Spil.Lemmas.Sid — helper lemmas for the Sid typing theorems (C01–C03): what one well-formed template
  resolves and renders, the table loops of `resolve_first` / `resolve_all`, and `sid_to_dict` as the
  declarative typing (`specDict`, `forcedDict`).
-/
import Spil.Lemmas.Template

namespace SidL

open Spec

/-! ### one well-formed template -/

/-- what `sidTplOk` gives, in the vocabulary of `Spil.Lemmas.Template` -/
structure TplOk (e : Env) (t : Template) : Prop where
  shape : SidShape t (phs t)
  nodup : ((phs t).map (·.1)).Nodup
  ne_nil : phs t ≠ []
  exprs : ∀ p ∈ phs t, p.2.slashFree e = true ∧ p.2.noGrp = true
  last : lastSat isFree (phs t) = true ∨ lastSat (Re.nlFree e) (phs t) = true

theorem tplOk_unpack (e : Env) (t : Template) (h : sidTplOk e t = true) : TplOk e t := by
  simp only [sidTplOk, Bool.and_eq_true, List.all_eq_true, Bool.or_eq_true] at h
  obtain ⟨⟨ha, hd⟩, hall⟩ := h
  have hs := sidShape_of_alternates t ha
  exact ⟨hs, (distinct_iff_nodup _).mp hd, hs.ne_nil, fun p hp => ⟨(hall p hp).1.1, (hall p hp).1.2⟩,
    lastSat_of_all _ _ _ hs.ne_nil (fun p hp => (hall p hp).2)⟩

theorem TplOk.keysOf_ne_nil {e : Env} {t : Template} (ok : TplOk e t) : keysOf t ≠ [] := by
  simpa [keysOf] using ok.ne_nil

theorem resolveTpl_total (e : Env) (t : Template) (s : Str) :
    ∃ od, Resolver.resolveTpl e false t s = .ok od := by
  cases h : Resolver.resolveTpl e false t s with
  | ok od => exact ⟨od, rfl⟩
  | error x => exact absurd (resolveTpl_err e false t s x h).2 (by simp)

theorem fieldsOf_ne_nil (t : Template) (s : Str) (h : phs t ≠ []) : fieldsOf t s ≠ [] := by
  unfold fieldsOf
  have := Str.splitOn_ne_nil '/' s
  match hp : phs t, hs : Str.splitOn '/' s with
  | [], _ => exact absurd hp h
  | _ :: _, [] => exact absurd hs this
  | _ :: _, _ :: _ => simp

theorem resolveTpl_of_search (e : Env) (t : Template) (hwf : sidTplOk e t = true) (s m : Str)
    (h : (sidRe (phs t)).search e s =
      some (((phs t).map (fun p => nm p.1)).zip (Str.splitOn '/' m))) :
    Resolver.resolveTpl e false t s = .ok (some (fieldsOf t m)) := by
  have ok := tplOk_unpack e t hwf
  have hnm : (phs t).map (fun p => nm p.1) = ((phs t).map (·.1)).map nm := by simp [List.map_map]
  unfold Resolver.resolveTpl
  rw [compile_eq ok.shape ok.nodup, h]
  simp only
  rw [hnm, matchToDict_zip _ ok.nodup _ [] (by simp)]
  show Except.ok (if (fieldsOf t m).isEmpty then none else some (fieldsOf t m)) = _
  simp [fieldsOf_ne_nil t m ok.ne_nil]

theorem resolveTpl_of_accepts (e : Env) (t : Template) (hwf : sidTplOk e t = true) (s : Str)
    (hacc : accepts e t s = true) :
    Resolver.resolveTpl e false t s = .ok (some (fieldsOf t s)) :=
  have ok := tplOk_unpack e t hwf
  resolveTpl_of_search e t hwf s s (search_of_accepts e _ ok.ne_nil ok.exprs ok.last s hacc)

/-- `$` tolerates one final newline: hence `m ++ "\n"` -/
theorem resolveTpl_inv (e : Env) (t : Template) (hwf : sidTplOk e t = true) (s : Str) (d : Dict)
    (h : Resolver.resolveTpl e false t s = .ok (some d)) :
    ∃ m, (s = m ∨ s = m ++ ['\n']) ∧ accepts e t m = true ∧ d = fieldsOf t m := by
  have ok := tplOk_unpack e t hwf
  cases hsearch : (sidRe (phs t)).search e s with
  | none =>
    unfold Resolver.resolveTpl at h
    rw [compile_eq ok.shape ok.nodup, hsearch] at h
    cases h
  | some caps =>
    obtain ⟨m, hm, hacc, rfl⟩ := search_inv e _ ok.ne_nil ok.exprs s caps hsearch
    rw [resolveTpl_of_search e t hwf s m hsearch] at h
    cases h
    exact ⟨m, hm, hacc, rfl⟩

/-- what `resolve_tpl` answers, for every string: `accepts` decides, but for a rejected `m ++ "\n"`
    with `m` accepted -/
theorem resolveTpl_cases (e : Env) (t : Template) (hwf : sidTplOk e t = true) (s : Str) :
    Resolver.resolveTpl e false t s = .ok (if accepts e t s then some (fieldsOf t s) else none) ∨
    ∃ m, s = m ++ ['\n'] ∧ accepts e t m = true ∧
      Resolver.resolveTpl e false t s = .ok (some (fieldsOf t m)) := by
  cases hacc : accepts e t s with
  | true => exact Or.inl (resolveTpl_of_accepts e t hwf s hacc)
  | false =>
    obtain ⟨od, hod⟩ := resolveTpl_total e t s
    cases od with
    | none => exact Or.inl hod
    | some d =>
      obtain ⟨m, hm, hacc', rfl⟩ := resolveTpl_inv e t hwf s d hod
      rcases hm with rfl | rfl
      · rw [hacc] at hacc'; cases hacc'
      · exact Or.inr ⟨m, rfl, hacc', hod⟩

theorem resolveTpl_eq (e : Env) (t : Template) (hwf : sidTplOk e t = true) (s : Str)
    (hnl : s.getLast? ≠ some '\n') :
    Resolver.resolveTpl e false t s = .ok (if accepts e t s then some (fieldsOf t s) else none) := by
  rcases resolveTpl_cases e t hwf s with h | ⟨m, rfl, -⟩
  · exact h
  · exact absurd List.getLast?_concat hnl

theorem formatOne_of_accepts (e : Env) (R : Resolver) (hcd : R.checkDup = false) (label : Str)
    (t : Template) (hl : R.lookup label = some t) (hwf : sidTplOk e t = true) (m : Str)
    (hacc : accepts e t m = true) :
    Resolver.formatOne e R (fieldsOf t m) label = .ok (if m.isEmpty then none else some m) := by
  have ok := tplOk_unpack e t hwf
  have hf := fieldsOf_ne_nil t m ok.ne_nil
  have hlen := acceptsSegs_length e _ _ hacc
  unfold Resolver.formatOne
  have hemp : (fieldsOf t m).isEmpty = false := by simp [hf]
  rw [hemp, hl]
  simp only [Bool.false_eq_true, if_false]
  unfold Resolver.formatTpl
  have hkeys : Dict.keysEq (fieldsOf t m) t.keys = true := by
    rw [keys_sid ok.shape ok.nodup]; exact Dict.keysEq_of_keys_eq _ _ (List.map_fst_zip (by simp [hlen]))
  have hfmt : Template.format t (fieldsOf t m) = some m := by
    have := format_sid ok.shape (fieldsOf t m) (Str.splitOn '/' m) hlen
      (Dict.get_zip _ ok.nodup _ (by simpa using hlen))
    rw [this, Str.join_split]
  rw [hkeys, hfmt]
  simp only [Bool.not_true, Bool.false_eq_true, if_false]
  unfold Resolver.resolveOne
  by_cases hm : m = []
  · subst hm; simp
  · have hm' : m.isEmpty = false := by simp [hm]
    simp only [hm', hl, hcd, Bool.false_eq_true, if_false, resolveTpl_of_accepts e t hwf m hacc]

theorem tpl_rejects (e : Env) (R : Resolver) (hcd : R.checkDup = false) (label : Str)
    (t : Template) (hl : R.lookup label = some t) (hwf : sidTplOk e t = true) (s : Str)
    (hne : s ≠ []) (hrej : accepts e t s = false) :
    Resolver.resolveTpl e false t s = .ok none ∨
    ∃ d f, Resolver.resolveTpl e false t s = .ok (some d) ∧
      Resolver.formatOne e R d label = .ok f ∧ (f == some s) = false := by
  rcases resolveTpl_cases e t hwf s with h | ⟨m, rfl, hacc, hod⟩
  · exact Or.inl (by rw [h, hrej]; rfl)
  · -- `format_one` renders `m` (or nothing, for `m = ""`), never `m ++ "\n"`
    exact Or.inr ⟨_, _, hod, formatOne_of_accepts e R hcd label t hl hwf m hacc, by cases m <;> simp⟩

/-! ### the template table -/

theorem tableOk_unpack (e : Env) (ts : List (Str × Template)) (h : sidTableOk e ts = true) :
    ∀ p ∈ ts, p.1 ≠ [] ∧ sidTplOk e p.2 = true ∧ ts.lookup p.1 = some p.2 := by
  simp only [sidTableOk, Bool.and_eq_true, List.all_eq_true] at h
  obtain ⟨hall, hd⟩ := h
  intro p hp
  exact ⟨by simpa using (hall p hp).1, (hall p hp).2,
    Lst.lookup_of_mem ts ((distinct_iff_nodup _).mp hd) p.1 p.2 hp⟩

section
variable {e : Env} {ts : List (Str × Template)} (h : sidTableOk e ts = true) {p : Str × Template}
  (hp : p ∈ ts)
include h hp

theorem tableOk_tplOk : sidTplOk e p.2 = true := (tableOk_unpack e ts h p hp).2.1

theorem tableOk_lookup : ts.lookup p.1 = some p.2 := (tableOk_unpack e ts h p hp).2.2

end

theorem firstAccepting_eq_find (e : Env) (s : Str) : ∀ ts : List (Str × Template),
    firstAccepting e ts s = ts.find? (fun p => accepts e p.2 s)
  | [] => rfl
  | (l, t) :: ts => by
    simp only [firstAccepting, List.find?_cons, firstAccepting_eq_find e s ts]
    cases accepts e t s <;> rfl

theorem firstAccepting_inv (e : Env) (ts : List (Str × Template)) (s : Str) (l : Str) (t : Template)
    (h : firstAccepting e ts s = some (l, t)) : (l, t) ∈ ts ∧ accepts e t s = true := by
  rw [firstAccepting_eq_find] at h
  exact ⟨List.mem_of_find?_eq_some h,
    List.find?_some (p := fun p : Str × Template => accepts e p.2 s) h⟩

theorem firstAccepting_of_mem (e : Env) (s : Str) (ts : List (Str × Template)) (p : Str × Template)
    (h : p ∈ ts) (hacc : accepts e p.2 s = true) : ∃ q, firstAccepting e ts s = some q := by
  rw [firstAccepting_eq_find]
  exact Option.isSome_iff_exists.1 (List.find?_isSome.2 ⟨p, h, hacc⟩)

/-- the typing of `s` that the statement prescribes, as the value `sid_to_dict` returns -/
def specDict (e : Env) (ts : List (Str × Template)) (s : Str) : Option (Str × Dict) :=
  (firstAccepting e ts s).map (fun p => (p.1, fieldsOf p.2 s))

theorem resolveFirstGo_head (e : Env) (cd : Bool) (s : Str) : ∀ (ts : List (Str × Template))
    (all : List (Str × Dict)), Resolver.resolveAllGo e cd s ts = .ok all →
      Resolver.resolveFirstGo e cd s ts = .ok all.head?
  | [], all, h => by cases h; rfl
  | (l, t) :: ts, all, h => by
    simp only [Resolver.resolveAllGo] at h
    simp only [Resolver.resolveFirstGo]
    cases hr : Resolver.resolveTpl e cd t s with
    | error x => rw [hr] at h; cases h
    | ok od =>
      cases hrest : Resolver.resolveAllGo e cd s ts with
      | error x => rw [hr, hrest] at h; cases h
      | ok more =>
        rw [hr, hrest] at h
        cases od with
        | none => cases h; exact resolveFirstGo_head e cd s ts more hrest
        | some d => cases h; rfl

/-- `firstExact` over the list of `resolve_all` lands on the first ACCEPTING template: a template
    that resolves only `m ++ "\n"` is listed, but fails the render-back test -/
-- `rfl` for `c.sidR.checkDup = false`: `sid_resolver` builds the resolver with `checkDup := false`.
theorem resolveAllGo_firstExact (c : Ctx) (s : Str) (hne : s ≠ []) (ts : List (Str × Template))
    (H : ∀ p ∈ ts, sidTplOk c.env p.2 = true ∧ c.sidR.lookup p.1 = some p.2) :
    ∃ all, Resolver.resolveAllGo c.env false s ts = .ok all ∧
      c.firstExact s all = .ok (specDict c.env ts s) := by
  induction ts with
  | nil => exact ⟨[], by simp [Resolver.resolveAllGo], by simp [Ctx.firstExact, specDict, firstAccepting]⟩
  | cons p ts ih =>
    obtain ⟨l, t⟩ := p
    obtain ⟨hwf, hl⟩ := H (l, t) (by simp)
    simp only at hwf hl
    obtain ⟨all, ha1, ha2⟩ := ih (fun p hp => H p (by simp [hp]))
    cases hacc : accepts c.env t s with
    | true =>
      refine ⟨(l, fieldsOf t s) :: all, ?_, ?_⟩
      · simp [Resolver.resolveAllGo, resolveTpl_of_accepts c.env t hwf s hacc, ha1]
      · simp [Ctx.firstExact, formatOne_of_accepts c.env c.sidR rfl l t hl hwf s hacc, hne, specDict,
          firstAccepting, hacc]
    | false =>
      rcases tpl_rejects c.env c.sidR rfl l t hl hwf s hne hacc with h1 | ⟨d, f, h1, h2, h3⟩
      · refine ⟨all, ?_, ?_⟩
        · simp [Resolver.resolveAllGo, h1, ha1]
        · simpa [specDict, firstAccepting, hacc] using ha2
      · refine ⟨(l, d) :: all, ?_, ?_⟩
        · simp [Resolver.resolveAllGo, h1, ha1]
        · simp only [Ctx.firstExact, h2, h3]
          simpa [specDict, firstAccepting, hacc] using ha2

/-! ### `sid_to_dict` -/

/-- the fast path of `sid_to_dict` (`resolve_first`, then the render-back guard) is an optimisation:
    `firstExact` tries the head of `resolve_all` first anyway -/
theorem sidToDict_none (c : Ctx) (hwf : sidTableOk c.env c.cfg.sid.templates = true)
    (s : Str) (hne : s ≠ []) :
    c.sidToDict s none = .ok (specDict c.env c.cfg.sid.templates s) := by
  have hs : s.isEmpty = false := by simp [hne]
  obtain ⟨all, ha1, ha2⟩ := resolveAllGo_firstExact c s hne c.cfg.sid.templates
    (fun p hp => (tableOk_unpack c.env _ hwf p hp).2)
  have ha1' : Resolver.resolveAllGo c.env c.sidR.checkDup s c.sidR.templates = .ok all := ha1
  simp only [Ctx.sidToDict, Bool.false_eq_true, if_false, Resolver.resolveFirst, Resolver.resolveAll,
    hs, ha1', resolveFirstGo_head _ _ _ _ _ ha1', ← ha2]
  cases all with
  | nil => rfl
  | cons a rest =>
    simp only [List.head?_cons, Ctx.firstExact]
    cases Resolver.formatOne c.env c.sidR a.2 a.1 with
    | error x => rfl
    | ok f => cases hf : f == some s <;> simp [hf]

theorem sidToDict_some_nil (c : Ctx) (hwf : sidTableOk c.env c.cfg.sid.templates = true)
    (s : Str) (hne : s ≠ []) :
    c.sidToDict s (some []) = .ok (specDict c.env c.cfg.sid.templates s) :=
  (rfl : c.sidToDict s (some []) = c.sidToDict s none).trans (sidToDict_none c hwf s hne)

/-- the forced typing of `rest` by the template named `ty`, as the value `sid_to_dict` returns -/
def forcedDict (e : Env) (ts : List (Str × Template)) (ty rest : Str) : Option (Str × Dict) :=
  match ts.lookup ty with
  | some t => if !rest.isEmpty && accepts e t rest then some (ty, fieldsOf t rest) else none
  | none => none

theorem sidToDict_forced (c : Ctx) (hwf : sidTableOk c.env c.cfg.sid.templates = true)
    (ty rest : Str) (hty : ty ≠ []) :
    c.sidToDict rest (some ty) = .ok (forcedDict c.env c.cfg.sid.templates ty rest) := by
  have hf : (!ty.isEmpty) = true := by simp [hty]
  unfold Ctx.sidToDict
  simp only [hf, if_true, Option.getD_some]
  unfold Resolver.resolveOne forcedDict
  by_cases hr : rest = []
  · -- `resolve_one('')` is empty, and `forcedDict` asks for a non-empty string
    subst hr
    cases c.cfg.sid.templates.lookup ty <;> simp
  have hr' : rest.isEmpty = false := by simp [hr]
  simp only [hr', Bool.false_eq_true, if_false, Bool.not_false, Bool.true_and]
  cases hl : c.cfg.sid.templates.lookup ty with
  | none =>
    have hl' : c.sidR.lookup ty = none := hl
    simp [hl']
  | some t =>
    have hl' : c.sidR.lookup ty = some t := hl
    have hwt : sidTplOk c.env t = true := tableOk_tplOk hwf (Lst.lookup_mem _ _ _ hl)
    have hcd : c.sidR.checkDup = false := rfl
    simp only [hl', hcd]
    -- the template accepts `rest` (it resolves and renders back), or not (it does not resolve, or
    -- what it resolves does not render back to `rest`)
    cases hacc : accepts c.env t rest with
    | true =>
      simp [resolveTpl_of_accepts c.env t hwt rest hacc,
        formatOne_of_accepts c.env c.sidR rfl ty t hl' hwt rest hacc, hr]
    | false =>
      rcases tpl_rejects c.env c.sidR rfl ty t hl' hwt rest hr hacc with h1 | ⟨d, f, h1, h2, h3⟩
      · simp [h1]
      · simp [h1, h2, h3]

/-- the Sid `sid_to_sid` makes of the string and what `sid_to_dict` returned for it -/
def sidOfDict (s : Str) (r : Option (Str × Dict)) : Sid :=
  ⟨s, (r.map (·.1)).getD [], (r.map (·.2)).getD []⟩

theorem sidOfDict_specDict (e : Env) (ts : List (Str × Template)) (s : Str) :
    sidOfDict s (specDict e ts s) = plainSid e ts s := by
  unfold plainSid specDict
  cases firstAccepting e ts s <;> rfl

theorem plainSid_string (e : Env) (ts : List (Str × Template)) (s : Str) : (plainSid e ts s).string = s := by
  unfold plainSid
  split <;> rfl

theorem sidOfDict_forcedDict (e : Env) (ts : List (Str × Template)) (ty rest : Str) :
    sidOfDict rest (forcedDict e ts ty rest) = forcedSid e ts ty rest := by
  unfold forcedSid forcedDict
  cases ts.lookup ty with
  | none => rfl
  | some t => simp only; split <;> rfl

theorem sidToDict_nil (c : Ctx) (ty : Option Str) : c.sidToDict [] ty = .ok none := by
  unfold Ctx.sidToDict Resolver.resolveOne Resolver.resolveFirst
  simp only [List.isEmpty_nil, if_true, ite_self]

theorem sidToDict_inv (c : Ctx) (hwf : sidTableOk c.env c.cfg.sid.templates = true) (s : Str)
    (ty : Option Str) :
    ∃ r, c.sidToDict s ty = .ok r ∧ ∀ l d, r = some (l, d) →
      ∃ t, (l, t) ∈ c.cfg.sid.templates ∧ s ≠ [] ∧ accepts c.env t s = true ∧ d = fieldsOf t s := by
  by_cases hs : s = []
  · exact ⟨none, hs ▸ sidToDict_nil c ty, fun _ _ h => by cases h⟩
  have hspec : ∀ l d, specDict c.env c.cfg.sid.templates s = some (l, d) →
      ∃ t, (l, t) ∈ c.cfg.sid.templates ∧ s ≠ [] ∧ accepts c.env t s = true ∧ d = fieldsOf t s := by
    intro l d h
    simp only [specDict, Option.map_eq_some_iff] at h
    obtain ⟨⟨l', t⟩, hfa, h⟩ := h
    cases h
    obtain ⟨hm, hacc⟩ := firstAccepting_inv _ _ _ _ _ hfa
    exact ⟨t, hm, hs, hacc, rfl⟩
  cases ty with
  | none => exact ⟨_, sidToDict_none c hwf s hs, hspec⟩
  | some ty =>
    by_cases hty : ty = []
    · exact ⟨_, hty ▸ sidToDict_some_nil c hwf s hs, hspec⟩
    · refine ⟨_, sidToDict_forced c hwf ty s hty, fun l d h => ?_⟩
      unfold forcedDict at h
      split at h
      · next t hl =>
        split at h
        · next hacc =>
          cases h
          simp only [Bool.and_eq_true] at hacc
          exact ⟨t, Lst.lookup_mem _ _ _ hl, hs, hacc.2, rfl⟩
        · cases h
      · cases h

end SidL
