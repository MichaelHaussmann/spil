/-
  Spil.Lemmas.StrOnce — `str.count`, `str.replace` and `str.split` (for a multi-character separator)
  around occurrences of a substring: skipping, a prefix occurrence, "count 0 = does not occur", and
  the leftmost occurrence (`NoStart`, `noStart_pass`), from which the facts about a string that
  contains the substring exactly once follow (`countGo_at_first` … `replaceGo_of_count_one`).
-/
import Spil.Lemmas.Str

namespace Str

/-! ### skipping, and an occurrence at the head -/

theorem append_of_isPrefixOf (sub s : Str) (h : sub.isPrefixOf s = true) : ∃ b, s = sub ++ b := by
  rw [List.isPrefixOf_iff_prefix] at h
  obtain ⟨b, hb⟩ := h
  exact ⟨b, hb.symm⟩

theorem count_eq_countGo (s sub : Str) (h : sub ≠ []) : count s sub = countGo sub 0 s := by
  cases sub with
  | nil => exact absurd rfl h
  | cons _ _ => rfl

theorem countGo_skip (sub a y : Str) : countGo sub a.length (a ++ y) = countGo sub 0 y := by
  induction a with
  | nil => rfl
  | cons c cs ih => simpa [countGo] using ih

theorem replaceGo_skip (find rep : Str) (a y : Str) :
    replaceGo find rep a.length (a ++ y) = replaceGo find rep 0 y := by
  induction a with
  | nil => rfl
  | cons c cs ih => simpa [replaceGo] using ih

theorem replaceGo_of_not_infix (find rep : Str) :
    ∀ y : Str, isInfix find y = false → replaceGo find rep 0 y = y
  | [], _ => rfl
  | c :: cs, h => by
    simp only [isInfix, Bool.or_eq_false_iff] at h
    simp [replaceGo, h.1, replaceGo_of_not_infix find rep cs h.2]

theorem replaceGo_prefix (find rep y : Str) (hne : find ≠ []) :
    replaceGo find rep 0 (find ++ y) = rep ++ replaceGo find rep 0 y := by
  cases find with
  | nil => exact absurd rfl hne
  | cons f fs =>
    have hp : (f :: fs).isPrefixOf (f :: (fs ++ y)) = true := by simp
    simp only [List.cons_append, replaceGo, hp, if_true, List.length_cons, Nat.add_sub_cancel]
    rw [replaceGo_skip]

theorem replace_prefix_drop (find y : Str) (hne : find ≠ []) (h : isInfix find y = false) :
    replace (find ++ y) find [] = y := by
  unfold replace
  have : find.isEmpty = false := by cases find <;> simp_all
  simp [this, replaceGo_prefix find [] y hne, replaceGo_of_not_infix find [] y h]

/-! ### `count = 0` is "does not occur" -/

theorem countGo_eq_zero_iff (sub : Str) (hne : sub ≠ []) :
    ∀ s : Str, countGo sub 0 s = 0 ↔ ¬ sub <:+: s
  | [] => by simp [countGo, List.infix_nil, hne]
  | c :: cs => by
    have ih := countGo_eq_zero_iff sub hne cs
    simp only [countGo, List.infix_cons_iff, ← List.isPrefixOf_iff_prefix, not_or]
    split
    · next hp => simp [hp]
    · next hp => simp [hp, ih]

theorem countGo_pos_iff (sub : Str) (hne : sub ≠ []) (s : Str) :
    1 ≤ countGo sub 0 s ↔ sub <:+: s := by
  rw [← Classical.not_not (a := sub <:+: s), ← countGo_eq_zero_iff sub hne s]; omega

theorem replaceGo_of_countGo_zero (sub rep : Str) (hne : sub ≠ []) (y : Str)
    (h : countGo sub 0 y = 0) : replaceGo sub rep 0 y = y :=
  replaceGo_of_not_infix sub rep y
    ((isInfix_eq_false_iff sub y).2 ((countGo_eq_zero_iff sub hne y).1 h))

theorem countGo_prefix (sub w : Str) (hne : sub ≠ []) :
    countGo sub 0 (sub ++ w) = 1 + countGo sub 0 w := by
  cases sub with
  | nil => exact absurd rfl hne
  | cons f fs =>
    have hp : (f :: fs).isPrefixOf (f :: (fs ++ w)) = true := by simp
    simp only [List.cons_append, countGo, hp, if_true, List.length_cons, Nat.add_sub_cancel]
    rw [countGo_skip]

/-! ### the leftmost occurrence -/

/-- no occurrence of `sub` in `u ++ y` starts inside `u` -/
def NoStart (sub : Str) : Str → Str → Prop
  | [], _ => True
  | c :: u, y => sub.isPrefixOf (c :: (u ++ y)) = false ∧ NoStart sub u y

theorem noStart_pass (sub y : Str) : ∀ u : Str, NoStart sub u y →
    countGo sub 0 (u ++ y) = countGo sub 0 y ∧
    (∀ rep, replaceGo sub rep 0 (u ++ y) = u ++ replaceGo sub rep 0 y) ∧
    (∀ cur, splitStrGo sub 0 cur (u ++ y) = splitStrGo sub 0 (u.reverse ++ cur) y)
  | [], _ => by simp
  | c :: u, ⟨hp, hu⟩ => by
    obtain ⟨h1, h2, h3⟩ := noStart_pass sub y u hu
    simp [countGo, replaceGo, splitStrGo, hp, h1, h2, h3]

theorem splitStrGo_prefix_head (sub w cur : Str) (hne : sub ≠ []) :
    (splitStrGo sub 0 cur (sub ++ w)).head? = some cur.reverse := by
  cases sub with
  | nil => exact absurd rfl hne
  | cons f fs =>
    have hp : (f :: fs).isPrefixOf (f :: (fs ++ w)) = true := by simp
    simp [splitStrGo, hp]

section atFirst

variable (sub : Str) (hne : sub ≠ []) (u w : Str) (h : NoStart sub u (sub ++ w))
include hne h

theorem countGo_at_first : countGo sub 0 (u ++ sub ++ w) = 1 + countGo sub 0 w := by
  rw [List.append_assoc, (noStart_pass sub (sub ++ w) u h).1, countGo_prefix sub w hne]

theorem replaceGo_at_first (rep : Str) :
    replaceGo sub rep 0 (u ++ sub ++ w) = u ++ rep ++ replaceGo sub rep 0 w := by
  rw [List.append_assoc, (noStart_pass sub (sub ++ w) u h).2.1, replaceGo_prefix _ _ _ hne,
    List.append_assoc]

theorem splitStrGo_head_at_first (cur : Str) :
    (splitStrGo sub 0 cur (u ++ sub ++ w)).head? = some (cur.reverse ++ u) := by
  rw [List.append_assoc, (noStart_pass sub (sub ++ w) u h).2.2, splitStrGo_prefix_head _ _ _ hne]
  simp

theorem countGo_rest_of_count_one (h1 : countGo sub 0 (u ++ sub ++ w) = 1) :
    countGo sub 0 w = 0 := by
  have := countGo_at_first sub hne u w h
  omega

theorem replaceGo_of_count_one (h1 : countGo sub 0 (u ++ sub ++ w) = 1) (rep : Str) :
    replaceGo sub rep 0 (u ++ sub ++ w) = u ++ rep ++ w := by
  rw [replaceGo_at_first sub hne u w h,
    replaceGo_of_countGo_zero _ _ hne _ (countGo_rest_of_count_one sub hne u w h h1)]

end atFirst

/-! ### the first piece of a split -/

theorem splitStrGo_head_some (sep : Str) : ∀ (s : Str) (k : Nat) (cur : Str),
    ∃ x, (splitStrGo sep k cur s).head? = some x
  | [], _, cur => ⟨cur.reverse, by simp [splitStrGo]⟩
  | _ :: cs, k + 1, cur => by simpa [splitStrGo] using splitStrGo_head_some sep cs k cur
  | c :: cs, 0, cur => by
    simp only [splitStrGo]
    split
    · exact ⟨cur.reverse, rfl⟩
    · exact splitStrGo_head_some sep cs 0 (c :: cur)

theorem splitStrGo_head (sub : Str) : ∀ (s cur : Str),
    ∃ a, (splitStrGo sub 0 cur s).head? = some (cur.reverse ++ a) ∧
      (a = s ∨ ∃ b, s = a ++ sub ++ b)
  | [], cur => ⟨[], by simp [splitStrGo], Or.inl rfl⟩
  | c :: cs, cur => by
    by_cases hp : sub.isPrefixOf (c :: cs) = true
    · obtain ⟨b, hb⟩ := append_of_isPrefixOf _ _ hp
      exact ⟨[], by simp [splitStrGo, hp], Or.inr ⟨b, by simpa using hb⟩⟩
    · obtain ⟨a, ha, hs⟩ := splitStrGo_head sub cs (c :: cur)
      refine ⟨c :: a, by simp [splitStrGo, hp, ha], ?_⟩
      rcases hs with rfl | ⟨b, rfl⟩
      · exact Or.inl rfl
      · exact Or.inr ⟨b, by simp⟩

end Str

namespace ExpL

/-- the `splitStrGo` sibling of `Str.countGo_skip` and `Str.replaceGo_skip` -/
theorem splitStrGo_skip (sub a y cur : Str) :
    Str.splitStrGo sub a.length cur (a ++ y) = Str.splitStrGo sub 0 cur y := by
  induction a with
  | nil => rfl
  | cons c cs ih => simpa [Str.splitStrGo] using ih

end ExpL
