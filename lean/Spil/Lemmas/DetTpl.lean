/-
  Spil.Lemmas.DetTpl — the compiled regular expression of a path template and the atoms of the
  template: successes of the expression are parses by the atoms (captures = placeholder words),
  and parses are successes; the rendered string is a parse with the rendered values.
-/
import Spil.Lemmas.DetSeg
import Spil.Lemmas.Template

namespace Det

open Spec

/-- keys of the placeholders, in order, with repetitions -/
def phKeys : Template → List Str
  | [] => []
  | .lit _ :: rest => phKeys rest
  | .ph k _ :: rest => k :: phKeys rest

/-- names of the groups of the compiled expression, in order -/
def capNames : List Tok → Template → List Str
  | _, [] => []
  | seen, .lit s :: rest => capNames (seen ++ [.lit s]) rest
  | seen, .ph k ex :: rest =>
    (k ++ Str.pad3 (Template.countKey k seen + 1)) :: capNames (seen ++ [.ph k ex]) rest

/-- the atom `flatAtoms` makes of one placeholder (`flatAtoms_ph`) -/
def phAtom (k : Str) (ex : Re) : Option Atom :=
  if ex == Re.star Cls.notSlash then some (Atom.free k) else (altsOf? ex).map (Atom.closed k)

theorem phAtom_cases {k : Str} {ex : Re} {a : Atom} (h : phAtom k ex = some a) :
    (ex = Re.star Cls.notSlash ∧ a = Atom.free k) ∨
    (ex ≠ Re.star Cls.notSlash ∧ ∃ alts, altsOf? ex = some alts ∧ a = Atom.closed k alts) := by
  simp only [phAtom] at h
  split at h
  · next hex => exact Or.inl ⟨by simpa using hex, by simpa using h.symm⟩
  · next hex =>
    simp only [Option.map_eq_some_iff] at h
    obtain ⟨alts, halts, rfl⟩ := h
    exact Or.inr ⟨by simpa using hex, alts, halts, rfl⟩

theorem flatAtoms_ph_eq (k : Str) (ex : Re) (rest : Template) :
    flatAtoms (.ph k ex :: rest) = (phAtom k ex).bind (fun a => (flatAtoms rest).map (a :: ·)) := by
  simp only [flatAtoms, phAtom]
  split
  · cases flatAtoms rest <;> rfl
  · cases altsOf? ex <;> cases flatAtoms rest <;> rfl

theorem flatAtoms_ph (k : Str) (ex : Re) (rest : Template) (fl : List Atom) :
    flatAtoms (.ph k ex :: rest) = some fl ↔
      ∃ a as, phAtom k ex = some a ∧ flatAtoms rest = some as ∧ fl = a :: as := by
  simp only [flatAtoms_ph_eq, Option.bind_eq_some_iff, Option.map_eq_some_iff, eq_comm (a := fl)]
  constructor
  · rintro ⟨a, ha, as, has, rfl⟩; exact ⟨a, as, ha, has, rfl⟩
  · rintro ⟨a, as, ha, has, rfl⟩; exact ⟨a, ha, as, has, rfl⟩

theorem flatAtoms_lit (s : Str) (rest : Template) (fl : List Atom) :
    flatAtoms (.lit s :: rest) = some fl ↔
      ∃ as, flatAtoms rest = some as ∧
        fl = s.map (fun ch => Atom.cls (Template.litCls ch)) ++ as := by
  have : flatAtoms (.lit s :: rest) =
      (flatAtoms rest).map (s.map (fun ch => Atom.cls (Template.litCls ch)) ++ ·) := by
    simp only [flatAtoms]; cases flatAtoms rest <;> rfl
  simp only [this, Option.map_eq_some_iff, eq_comm (a := fl)]

theorem ph_aval (k : Str) (ex : Re) (a : Atom) (h : phAtom k ex = some a) (m : Str) :
    aval a m = [m] := by
  rcases phAtom_cases h with ⟨_, rfl⟩ | ⟨_, _, _, rfl⟩ <;> rfl

theorem ph_accepts (e : Env) (k : Str) (ex : Re) (a : Atom) (h : phAtom k ex = some a) (m : Str) :
    ex.accepts e m = true ↔ aword e a m := by
  rcases phAtom_cases h with ⟨rfl, rfl⟩ | ⟨_, alts, halts, rfl⟩
  · rw [accepts_iff_matches]
    constructor
    · rintro ⟨c, hm⟩ hs
      cases hm with
      | star hall => simpa [Cls.test] using hall '/' hs
    · intro hs
      refine ⟨[], .star (fun x hx => ?_)⟩
      simp only [Cls.test, bne_iff_ne, ne_eq]
      rintro rfl
      exact hs hx
  · exact accepts_altsOf e ex alts halts m

theorem ph_noGrp (k : Str) (ex : Re) (a : Atom) (h : phAtom k ex = some a) : ex.noGrp = true := by
  rcases phAtom_cases h with ⟨rfl, _⟩ | ⟨_, alts, halts, _⟩
  · rfl
  · exact altsOf_noGrp ex alts halts

theorem ph_noSlash (e : Env) (k : Str) (ex : Re) (a : Atom) (ha : phAtom k ex = some a)
    (hok : atomOk e a = true) (u : Str) (hu : aword e a u) : '/' ∉ u := by
  refine aword_noSlash e a ?_ u hu
  rcases phAtom_cases ha with ⟨_, rfl⟩ | ⟨_, alts, _, rfl⟩
  · rfl
  · simp only [atomOk, Atom.noSlash, Bool.and_eq_true, List.all_eq_true] at hok ⊢
    exact fun w hw k hk => ((hok.2 w hw).2 k hk).1

theorem ph_notSlashAtom (k : Str) (ex : Re) (a : Atom) (ha : phAtom k ex = some a) :
    a.isSlash = false := by
  rcases phAtom_cases ha with ⟨_, rfl⟩ | ⟨_, _, _, rfl⟩ <;> rfl

/-! ### the compiled expression matches exactly the parses by the atoms -/

/-- the item list `l` matches exactly the parses by the atoms `as`; the captures are the group
    names `N` zipped with the placeholder words -/
def Items (e : Env) (l : List Re) (as : List Atom) (N : List Str) : Prop :=
  ∀ m c, Re.Matches e (Re.mkSeq l) m c ↔ ∃ vs, Parse e as m vs ∧ c = N.zip vs

theorem items_nil (e : Env) : Items e [] [] [] := by
  intro m c
  simp only [Re.mkSeq, parse_nil_iff]
  constructor
  · intro h; cases h; exact ⟨[], ⟨rfl, rfl⟩, rfl⟩
  · rintro ⟨vs, ⟨rfl, rfl⟩, rfl⟩; exact .eps

/-- one more item in front: `r` matches exactly the words of the atom `a` and captures them under
    the names `ns` (none for literal text, the group name for a placeholder) -/
theorem items_cons (e : Env) (r : Re) (a : Atom) (ns : List Str)
    (hr : ∀ m c, Re.Matches e r m c ↔ aword e a m ∧ c = ns.zip (aval a m))
    (hlen : ∀ m, ns.length = (aval a m).length)
    (l : List Re) (as : List Atom) (N : List Str) (h : Items e l as N) :
    Items e (r :: l) (a :: as) (ns ++ N) := by
  intro m c
  simp only [matches_mkSeq_cons, hr, h _ _, parse_cons_iff]
  constructor
  · rintro ⟨m1, c1, m2, c2, ⟨hw, rfl⟩, ⟨vs, pv, rfl⟩, rfl, rfl⟩
    exact ⟨aval a m1 ++ vs, ⟨m1, m2, vs, rfl, rfl, hw, pv⟩, (List.zip_append (hlen m1)).symm⟩
  · rintro ⟨_, ⟨u, w', vs', rfl, rfl, hw, pv⟩, rfl⟩
    exact ⟨u, _, w', _, ⟨hw, rfl⟩, ⟨vs', pv, rfl⟩, rfl, List.zip_append (hlen u)⟩

theorem items_lits (e : Env) (l : List Re) (as : List Atom) (N : List Str) (h : Items e l as N) :
    ∀ cs : Str, Items e (cs.map (fun c => Re.cls (Template.litCls c)) ++ l)
      (cs.map (fun c => Atom.cls (Template.litCls c)) ++ as) N
  | [] => h
  | ch :: cs => by
    refine items_cons e _ _ [] (fun m c => ?_) (fun _ => rfl) _ _ _ (items_lits e l as N h cs)
    constructor
    · intro hm; cases hm with | cls ht => exact ⟨⟨_, rfl, ht⟩, rfl⟩
    · rintro ⟨⟨d, rfl, ht⟩, rfl⟩; exact .cls ht

theorem items_of_flatAtoms (e : Env) : ∀ (t : Template) (seen : List Tok) (fl : List Atom),
    flatAtoms t = some fl → Items e (Template.items seen t) fl (capNames seen t)
  | [], seen, fl, h => by
    simp only [flatAtoms, Option.some.injEq] at h
    subst h
    exact items_nil e
  | .lit s :: rest, seen, fl, h => by
    obtain ⟨as, has, rfl⟩ := (flatAtoms_lit s rest fl).mp h
    exact items_lits e _ _ _ (items_of_flatAtoms e rest _ as has) s
  | .ph k ex :: rest, seen, fl, h => by
    obtain ⟨a, as, ha, has, rfl⟩ := (flatAtoms_ph k ex rest fl).mp h
    refine items_cons e _ a [_] (fun m c => ?_) (fun m => by rw [ph_aval k ex a ha]; rfl)
      _ _ _ (items_of_flatAtoms e rest _ as has)
    rw [matches_grp_noGrp e _ ex (ph_noGrp k ex a ha), ph_accepts e k ex a ha, ph_aval k ex a ha]
    rfl

theorem mem_run_items (e : Env) (t : Template) (seen : List Tok) (fl : List Atom)
    (hfl : flatAtoms t = some fl) (s m rest : Str) (c : Caps) :
    (m, rest, c) ∈ (Re.mkSeq (Template.items seen t)).run e s ↔
      m ++ rest = s ∧ ∃ vs, Parse e fl m vs ∧ c = (capNames seen t).zip vs := by
  rw [mem_run_iff, items_of_flatAtoms e t seen fl hfl, eq_comm]

/-! ### the rendered string -/

theorem parse_lits (e : Env) : ∀ cs : Str,
    Parse e (cs.map (fun c => Atom.cls (Template.litCls c))) cs []
  | [] => Parse.nil
  | c :: cs => by
    have := Parse.cons (e := e) (Atom.cls (Template.litCls c)) _ [c] cs [] ?_ (parse_lits e cs)
    · simpa [aval] using this
    · refine ⟨c, rfl, ?_⟩
      simp only [Template.litCls]
      split
      · next h => simp only [beq_iff_eq] at h; subst h; simp [Cls.test]
      · simp [Cls.test]

theorem count_lits : ∀ cs : Str,
    (cs.map (fun c => Atom.cls (Template.litCls c))).countP Atom.isSlash = List.count '/' cs
  | [] => rfl
  | c :: cs => by
    simp only [List.map_cons, List.countP_cons, List.count_cons, count_lits cs]
    congr 1
    simp only [Template.litCls]
    by_cases hc : c = '.'
    · subst hc; simp [Atom.isSlash]
    · simp [hc, Atom.isSlash]

theorem valuesOk_shortcut (e : Env) (ex : Re) (v : Str) :
    (if ex == Re.star Cls.notSlash then !Str.hasChar '/' v else ex.accepts e v) = ex.accepts e v := by
  split
  · next hex =>
    simp only [beq_iff_eq] at hex
    subst hex
    rw [Bool.eq_iff_iff, ph_accepts e [] _ (Atom.free []) (by simp [phAtom])]
    simp only [aword, Str.hasChar, Bool.not_eq_true', List.any_eq_false, beq_iff_eq]
    constructor
    · intro h hm; exact h _ hm rfl
    · intro h x hx hxe; subst hxe; exact h hx
  · rfl

theorem valuesOk_iff (e : Env) (t : Template) (d : Dict) :
    valuesOk e t d = true ↔
      ∀ k ex, Tok.ph k ex ∈ t → ∃ v, d.get k = some v ∧ ex.accepts e v = true := by
  simp only [valuesOk, List.all_eq_true]
  constructor
  · intro h k ex hm
    have := h _ hm
    simp only [valuesOk_shortcut] at this
    cases hg : d.get k with
    | none => rw [hg] at this; simp at this
    | some v => rw [hg] at this; exact ⟨v, rfl, this⟩
  · intro h tok hm
    cases tok with
    | lit s => rfl
    | ph k ex =>
      obtain ⟨v, hv, hc⟩ := h k ex hm
      simp only [hv, valuesOk_shortcut]
      exact hc

theorem phAtom_of_mem (k : Str) (ex : Re) : ∀ (t : Template) (fl : List Atom),
    flatAtoms t = some fl → Tok.ph k ex ∈ t → ∃ a ∈ fl, phAtom k ex = some a
  | [], _, _, hm => by simp at hm
  | .lit s :: rest, fl, h, hm => by
    obtain ⟨as, has, rfl⟩ := (flatAtoms_lit s rest fl).mp h
    simp only [List.mem_cons, reduceCtorEq, false_or] at hm
    obtain ⟨a, ha, hp⟩ := phAtom_of_mem k ex rest as has hm
    exact ⟨a, by simp [ha], hp⟩
  | .ph k' ex' :: rest, fl, h, hm => by
    obtain ⟨a', as, ha', has, rfl⟩ := (flatAtoms_ph k' ex' rest fl).mp h
    simp only [List.mem_cons, Tok.ph.injEq] at hm
    rcases hm with ⟨rfl, rfl⟩ | hm
    · exact ⟨a', by simp, ha'⟩
    · obtain ⟨a, ha, hp⟩ := phAtom_of_mem k ex rest as has hm
      exact ⟨a, by simp [ha], hp⟩

/-- the value `format` renders for the key `k` -/
def valOf (data : Dict) (k : Str) : Str := (data.get k).getD []

/-- rendering `t` from `data`, read through a change `F` of the atoms: every placeholder has a
    '/'-free value that is a word of its (changed) atom -/
def Renders (e : Env) (F : Atom → Atom) (t : Template) (data : Dict) : Prop :=
  ∀ k ex a, Tok.ph k ex ∈ t → phAtom k ex = some a →
    ∃ v, data.get k = some v ∧ '/' ∉ v ∧ aword e (F a) v

/-- the rendered string is a parse by the atoms (read through any `F` that leaves literal text and
    the captured values alone), with the rendered values, and has one '/' per '/' atom -/
theorem parse_map_of_format (e : Env) (F : Atom → Atom) (hcls : ∀ k, F (.cls k) = .cls k)
    (hval : ∀ a u, aval (F a) u = aval a u) (data : Dict) : ∀ (t : Template) (fl : List Atom)
    (w : Str), flatAtoms t = some fl → Renders e F t data → Template.format t data = some w →
    Parse e (fl.map F) w ((phKeys t).map (valOf data)) ∧
      List.count '/' w = fl.countP Atom.isSlash
  | [], fl, w, h, _, hw => by
    simp only [flatAtoms, Option.some.injEq] at h
    simp only [Template.format, Option.some.injEq] at hw
    subst h hw
    exact ⟨Parse.nil, rfl⟩
  | .lit s :: rest, fl, w, h, hr, hw => by
    obtain ⟨as, has, rfl⟩ := (flatAtoms_lit s rest fl).mp h
    obtain ⟨w', hw', rfl⟩ := (SidL.format_lit_cons s rest data w).mp hw
    obtain ⟨ih1, ih2⟩ := parse_map_of_format e F hcls hval data rest as w' has
      (fun k ex a hm => hr k ex a (List.mem_cons_of_mem _ hm)) hw'
    have hlits : (s.map (fun ch => Atom.cls (Template.litCls ch))).map F =
        s.map (fun ch => Atom.cls (Template.litCls ch)) := by
      rw [List.map_map]; exact List.map_congr_left (fun ch _ => hcls _)
    refine ⟨?_, by rw [List.count_append, List.countP_append, count_lits, ih2]⟩
    rw [List.map_append, hlits]
    exact (parse_append e _ _ _ _).mpr ⟨s, w', [], _, rfl, rfl, parse_lits e s, ih1⟩
  | .ph k ex :: rest, fl, w, h, hr, hw => by
    obtain ⟨a, as, ha, has, rfl⟩ := (flatAtoms_ph k ex rest fl).mp h
    obtain ⟨v, hg, hns, hword⟩ := hr k ex a (List.mem_cons_self ..) ha
    obtain ⟨v', w', hg', hf, rfl⟩ := (SidL.format_ph_cons k ex rest data w).mp hw
    cases hg.symm.trans hg'
    obtain ⟨ih1, ih2⟩ := parse_map_of_format e F hcls hval data rest as w' has
      (fun k ex a hm => hr k ex a (List.mem_cons_of_mem _ hm)) hf
    refine ⟨?_, ?_⟩
    · simp only [phKeys, List.map_cons, valOf, hg, Option.getD_some]
      have := Parse.cons (F a) (as.map F) v w' _ hword ih1
      rwa [hval, ph_aval k ex a ha] at this
    · rw [List.count_append, List.countP_cons, ph_notSlashAtom k ex a ha, ih2,
        List.count_eq_zero.mpr hns]
      simp

theorem renders_of_valuesOk (e : Env) (t : Template) (fl : List Atom) (data : Dict)
    (hfl : flatAtoms t = some fl) (hok : fl.all (atomOk e) = true)
    (hv : valuesOk e t data = true) : Renders e id t data := by
  intro k ex a hm ha
  obtain ⟨v, hg, hc⟩ := (valuesOk_iff e t data).mp hv k ex hm
  obtain ⟨a', hafl, ha'⟩ := phAtom_of_mem k ex t fl hfl hm
  cases ha.symm.trans ha'
  have hword := (ph_accepts e k ex a ha v).mp hc
  exact ⟨v, hg, ph_noSlash e k ex a ha (List.all_eq_true.mp hok a hafl) v hword, hword⟩

theorem parse_of_format (e : Env) (t : Template) (fl : List Atom) (data : Dict) (w : Str)
    (hfl : flatAtoms t = some fl) (hok : fl.all (atomOk e) = true)
    (hv : valuesOk e t data = true) (hw : Template.format t data = some w) :
    Parse e fl w ((phKeys t).map (valOf data)) ∧
      List.count '/' w = fl.countP Atom.isSlash := by
  have := parse_map_of_format e id (fun _ => rfl) (fun _ _ => rfl) data t fl w hfl
    (renders_of_valuesOk e t fl data hfl hok hv) hw
  rwa [List.map_id] at this

end Det
