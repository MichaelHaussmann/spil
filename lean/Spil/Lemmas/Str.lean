/-
  Spil.Lemmas.Str — `Str.splitOn` / `Str.joinWith` as inverse views of one string: the pieces are the
  unique non-empty list of separator-free strings that joins to it (`splitOn_eq_iff`); from that,
  `append`, the number of pieces, the characters and infixes of the pieces, cutting at the first
  separator (`split1`), `strip`. Then the order facts about `Str.lt` / `Str.ltList` (strict total
  orders).
-/
import Spil.Model.Str
import Spil.Lemmas.Lst

namespace Str

/-! ### the equations of `splitOn` and `joinWith` -/

theorem splitOn_ne_nil (sep : Char) (s : Str) : splitOn sep s ≠ [] := by
  induction s with
  | nil => simp [splitOn]
  | cons c cs ih =>
    simp only [splitOn]; split
    · simp
    · split <;> simp_all

theorem splitOn_eq_cons (sep : Char) (s : Str) :
    splitOn sep s = (splitOn sep s).headD [] :: (splitOn sep s).tail := by
  cases h : splitOn sep s with
  | nil => exact absurd h (splitOn_ne_nil sep s)
  | cons p ps => rfl

/-- `splitOn` on `c :: s` without the unreachable branch of its definition -/
theorem splitOn_cons (sep c : Char) (s : Str) :
    splitOn sep (c :: s) =
      if c = sep then [] :: splitOn sep s
      else (c :: (splitOn sep s).headD []) :: (splitOn sep s).tail := by
  rw [splitOn]; split
  · rfl
  · cases h : splitOn sep s with
    | nil => exact absurd h (splitOn_ne_nil sep s)
    | cons p ps => rfl

theorem joinWith_cons_cons (sep : Char) (p q : Str) (ps : List Str) :
    joinWith sep (p :: q :: ps) = p ++ sep :: joinWith sep (q :: ps) := rfl

theorem joinWith_cons_head (sep c : Char) (p : Str) (ps : List Str) :
    joinWith sep ((c :: p) :: ps) = c :: joinWith sep (p :: ps) := by
  cases ps <;> rfl

theorem splitOn_length_cons (sep c : Char) (s : Str) :
    (splitOn sep (c :: s)).length =
      if c = sep then (splitOn sep s).length + 1 else (splitOn sep s).length := by
  rw [splitOn_cons]; split
  · rfl
  · rw [List.length_cons, List.length_tail,
      Nat.sub_add_cancel (List.length_pos_iff.2 (splitOn_ne_nil sep s))]

theorem splitOn_append_nosep (sep : Char) (v b : Str) (h : sep ∉ v) :
    splitOn sep (v ++ b) =
      (v ++ (splitOn sep b).headD []) :: (splitOn sep b).tail := by
  induction v with
  | nil => simpa using splitOn_eq_cons sep b
  | cons c cs ih =>
    simp only [List.mem_cons, not_or] at h
    have hc : c ≠ sep := fun e => h.1 e.symm
    rw [List.cons_append, splitOn_cons, if_neg hc, ih h.2]
    simp

theorem joinWith_ne_nil (sep : Char) (c : Str) (cs : List Str) (hc : c ≠ []) :
    joinWith sep (c :: cs) ≠ [] := by
  cases cs with
  | nil => simpa [joinWith] using hc
  | cons q qs => simp [joinWith, hc]

/-! ### the round trip -/

theorem join_split (sep : Char) (s : Str) : joinWith sep (splitOn sep s) = s := by
  induction s with
  | nil => rfl
  | cons c cs ih =>
    rw [splitOn_eq_cons] at ih
    rw [splitOn_cons]; split
    · next h => rw [splitOn_eq_cons, joinWith_cons_cons, ih, h]; rfl
    · rw [joinWith_cons_head, ih]

theorem splitOn_inj (sep : Char) (a b : Str) (h : splitOn sep a = splitOn sep b) : a = b := by
  rw [← join_split sep a, ← join_split sep b, h]

theorem splitOn_not_mem (sep : Char) (s : Str) : ∀ p ∈ splitOn sep s, sep ∉ p := by
  induction s with
  | nil => simp [splitOn]
  | cons c cs ih =>
    rw [splitOn_eq_cons] at ih
    rw [splitOn_cons]; split
    · rw [splitOn_eq_cons]; simpa using ih
    · next h =>
      intro p hp
      rcases List.mem_cons.1 hp with rfl | hp
      · simpa [Ne.symm h] using ih _ (by simp)
      · exact ih p (by simp [hp])

theorem splitOn_of_not_mem (sep : Char) (s : Str) (h : sep ∉ s) : splitOn sep s = [s] := by
  induction s with
  | nil => rfl
  | cons c cs ih =>
    simp only [List.mem_cons, not_or] at h
    rw [splitOn_cons, if_neg (Ne.symm h.1), ih h.2]; rfl

/-- `splitOn_append` for a separator-free `p` -/
theorem splitOn_append_sep (sep : Char) (p rest : Str) (h : sep ∉ p) :
    splitOn sep (p ++ sep :: rest) = p :: splitOn sep rest := by
  induction p with
  | nil => rw [List.nil_append, splitOn_cons, if_pos rfl]
  | cons c cs ih =>
    simp only [List.mem_cons, not_or] at h
    rw [List.cons_append, splitOn_cons, if_neg (Ne.symm h.1), ih h.2]; rfl

theorem split_join (sep : Char) (ps : List Str) (hne : ps ≠ [])
    (h : ∀ p ∈ ps, sep ∉ p) : splitOn sep (joinWith sep ps) = ps := by
  induction ps with
  | nil => exact absurd rfl hne
  | cons p ps ih =>
    cases ps with
    | nil => exact splitOn_of_not_mem sep p (h p (by simp))
    | cons q qs =>
      rw [joinWith_cons_cons, splitOn_append_sep sep p _ (h p (by simp)),
        ih (by simp) (fun x hx => h x (by simp [hx]))]

theorem splitOn_eq_iff (sep : Char) (s : Str) (ps : List Str) :
    splitOn sep s = ps ↔ ps ≠ [] ∧ (∀ p ∈ ps, sep ∉ p) ∧ joinWith sep ps = s :=
  ⟨fun h => h ▸ ⟨splitOn_ne_nil sep s, splitOn_not_mem sep s, join_split sep s⟩,
   fun ⟨hne, hp, hj⟩ => hj ▸ split_join sep ps hne hp⟩

/-! ### `append` -/

theorem joinWith_append (sep : Char) (xs ys : List Str) (hx : xs ≠ []) (hy : ys ≠ []) :
    joinWith sep (xs ++ ys) = joinWith sep xs ++ sep :: joinWith sep ys := by
  induction xs with
  | nil => exact absurd rfl hx
  | cons x xs ih =>
    cases xs with
    | nil =>
      obtain ⟨y, ys, rfl⟩ := List.exists_cons_of_ne_nil hy
      rfl
    | cons x' xs =>
      rw [List.cons_append, List.cons_append, joinWith_cons_cons, ← List.cons_append, ih (by simp),
        joinWith_cons_cons, List.append_assoc, List.cons_append]

theorem joinWith_concat (sep : Char) (a : List Str) (b : Str) (h : a ≠ []) :
    joinWith sep (a ++ [b]) = joinWith sep a ++ sep :: b :=
  joinWith_append sep a [b] h (by simp)

theorem splitOn_joinWith_take (sep : Char) (s : Str) (n : Nat) (hn : 0 < n) :
    splitOn sep (joinWith sep ((splitOn sep s).take n)) = (splitOn sep s).take n := by
  apply split_join
  · intro h
    rcases List.take_eq_nil_iff.mp h with h0 | h0
    · omega
    · exact splitOn_ne_nil sep s h0
  · intro p hp
    exact splitOn_not_mem sep s p (List.mem_of_mem_take hp)

theorem joinWith_dropLast_last (sep : Char) (segs : List Str) (h : 2 ≤ segs.length) :
    joinWith sep (segs.take (segs.length - 1)) ++ sep :: (segs.getLast?.getD []) =
      joinWith sep segs := by
  obtain ⟨front, a, b, rfl⟩ := Lst.exists_two_last segs h
  have h1 : (front ++ [a, b]).length - 1 = (front ++ [a]).length := by simp
  have h2 : front ++ [a, b] = (front ++ [a]) ++ [b] := by simp
  rw [h1]
  conv => lhs; rw [h2, List.take_left, List.getLast?_concat]
  rw [h2, joinWith_concat sep (front ++ [a]) b (by simp)]
  rfl

theorem joinWith_snoc_append (sep : Char) (L : List Str) (x y : Str) :
    joinWith sep (L ++ [x ++ y]) = joinWith sep (L ++ [x]) ++ y := by
  cases L with
  | nil => rfl
  | cons a L =>
    rw [joinWith_concat sep _ _ (by simp), joinWith_concat sep _ _ (by simp), List.append_assoc,
      List.cons_append]

theorem joinWith_head (sep : Char) (p : Str) (ps : List Str) :
    ∃ b, joinWith sep (p :: ps) = p ++ b := by
  cases ps with
  | nil => exact ⟨[], (List.append_nil p).symm⟩
  | cons q qs => exact ⟨_, joinWith_cons_cons sep p q qs⟩

theorem joinWith_last (sep : Char) (ps : List Str) (h : ps ≠ []) :
    ∃ a, joinWith sep ps = a ++ ps.getLast h := by
  obtain ⟨l, x, rfl⟩ := Lst.snoc_of_ne_nil ps h
  rw [List.getLast_concat]
  cases l with
  | nil => exact ⟨[], rfl⟩
  | cons p l =>
    exact ⟨joinWith sep (p :: l) ++ [sep], by rw [joinWith_concat sep _ x (by simp)]; simp⟩

theorem joinWith_head_ne (sep : Char) (ps : List Str) (hne : ps ≠ []) (hp : ps.head hne ≠ [])
    (hsep : sep ∉ ps.head hne) : ∃ c r, joinWith sep ps = c :: r ∧ c ≠ sep := by
  obtain ⟨p, ps, rfl⟩ := List.exists_cons_of_ne_nil hne
  obtain ⟨b, hb⟩ := joinWith_head sep p ps
  cases p with
  | nil => exact absurd rfl hp
  | cons c p' => exact ⟨c, p' ++ b, by rw [hb]; rfl, fun e => hsep (by simp [e])⟩

theorem foldl_ext_prefix {sep : Char} (pre : Str) : ∀ (picks : List Str) (b : Str),
    picks.foldl (fun acc a => acc ++ sep :: a) (pre ++ b) =
      pre ++ picks.foldl (fun acc a => acc ++ sep :: a) b
  | [], _ => rfl
  | a :: picks, b => by
    simp only [List.foldl_cons]
    rw [← foldl_ext_prefix pre picks]
    simp

theorem joinWith_cons_eq_foldl {sep : Char} : ∀ (picks : List Str) (a : Str),
    joinWith sep (a :: picks) = picks.foldl (fun acc b => acc ++ sep :: b) a
  | [], _ => rfl
  | b :: picks, a => by
    simp only [joinWith, List.foldl_cons]
    rw [joinWith_cons_eq_foldl picks b, foldl_ext_prefix a picks (sep :: b)]
    congr 1
    exact (foldl_ext_prefix [sep] picks b).symm

theorem splitOn_append (sep : Char) (a b : Str) :
    splitOn sep (a ++ sep :: b) = splitOn sep a ++ splitOn sep b := by
  rw [splitOn_eq_iff]
  refine ⟨by simp [splitOn_ne_nil], ?_, ?_⟩
  · intro p hp
    rcases List.mem_append.1 hp with h | h <;> exact splitOn_not_mem sep _ p h
  · rw [joinWith_append sep _ _ (splitOn_ne_nil sep a) (splitOn_ne_nil sep b), join_split, join_split]

/-! ### one character: counting it, filtering it out -/

theorem countChar_eq_count (c : Char) (s : Str) : countChar c s = List.count c s :=
  List.count_eq_length_filter.symm

theorem countChar_append (c : Char) (a b : Str) :
    countChar c (a ++ b) = countChar c a + countChar c b := by
  simp only [countChar_eq_count, List.count_append]

theorem countChar_eq_zero (c : Char) (a : Str) (h : c ∉ a) : countChar c a = 0 := by
  rw [countChar_eq_count, List.count_eq_zero_of_not_mem h]

theorem filter_ne_self (s : Str) (x : Char) (h : x ∉ s) : s.filter (· != x) = s :=
  List.filter_eq_self.2 (fun c hc => by simpa using fun e : c = x => h (e ▸ hc))

theorem countChar_addSeg {sep : Char} {n : Nat} {x a : Str} (hx : countChar sep x = n) (ha : sep ∉ a) :
    countChar sep (x ++ sep :: a) = n + 1 := by
  rw [countChar_append, hx, ← List.singleton_append, countChar_append, countChar_eq_zero _ _ ha]
  simp [countChar]

theorem splitOn_length (sep : Char) (s : Str) : (splitOn sep s).length = countChar sep s + 1 := by
  induction s with
  | nil => rfl
  | cons c cs ih =>
    rw [splitOn_length_cons, ih, countChar_eq_count, countChar_eq_count, List.count_cons]
    by_cases h : c = sep <;> simp [h]

/-- the piece right after a text ending in the separator -/
theorem splitOn_comp_after (sep : Char) (a v b : Str) (hv : sep ∉ v)
    (hb : b = [] ∨ ∃ b', b = sep :: b') :
    (splitOn sep ((a ++ [sep]) ++ (v ++ b)))[countChar sep a + 1]? = some v := by
  rw [List.append_assoc, List.singleton_append, splitOn_append]
  rw [List.getElem?_append_right (by rw [splitOn_length]; omega), splitOn_length]
  simp only [Nat.sub_self]
  rw [splitOn_append_nosep sep v b hv]
  rcases hb with rfl | ⟨b', rfl⟩
  · simp [splitOn]
  · simp [splitOn]

/-! ### characters and infixes of the pieces -/

theorem infix_joinWith_of_mem (sep : Char) (ps : List Str) (p : Str) (hp : p ∈ ps) :
    p <:+: joinWith sep ps := by
  induction ps with
  | nil => cases hp
  | cons q qs ih =>
    cases qs with
    | nil => rw [List.mem_singleton.1 hp]; exact List.infix_refl _
    | cons q' qs =>
      rw [joinWith_cons_cons]
      rcases List.mem_cons.1 hp with rfl | hp
      · exact (List.prefix_append _ _).isInfix
      · exact (ih hp).trans ((List.suffix_cons _ _).trans (List.suffix_append _ _)).isInfix

theorem splitOn_infix (sep : Char) (s : Str) : ∀ p ∈ splitOn sep s, p <:+: s := fun p hp => by
  have := infix_joinWith_of_mem sep _ p hp
  rwa [join_split] at this

theorem getLast_splitOn_mem (sep : Char) (s : Str) :
    ((splitOn sep s).getLast?).getD [] ∈ splitOn sep s := by
  rw [List.getLast?_eq_some_getLast (splitOn_ne_nil sep s)]
  exact List.getLast_mem _

theorem mem_of_mem_splitOn (sep : Char) (s p : Str) (ch : Char) (hp : p ∈ splitOn sep s)
    (hc : ch ∈ p) : ch ∈ s :=
  (splitOn_infix sep s p hp).mem hc

theorem segs_snoc_not_mem {sep : Char} (s : Str) (segs : List Str)
    (hsub : ∀ u ∈ segs, u ∈ splitOn sep s) (v : Str) (hv : sep ∉ v) :
    ∀ u ∈ segs ++ [v], sep ∉ u := by
  intro u hu
  rcases List.mem_append.1 hu with hu | hu
  · exact splitOn_not_mem sep s u (hsub u hu)
  · rw [List.mem_singleton.1 hu]; exact hv

theorem singleton_infix (ch : Char) (s : Str) : [ch] <:+: s ↔ ch ∈ s := by
  constructor
  · intro h; exact h.subset (List.mem_singleton.2 rfl)
  · intro h
    obtain ⟨a, b, rfl⟩ := List.append_of_mem h
    exact ⟨a, b, by simp⟩

/-! ### the Boolean tests `hasChar`, `endsWith`, `isInfix` as list relations -/

theorem hasChar_iff (ch : Char) (s : Str) : hasChar ch s = true ↔ ch ∈ s := by
  simp [hasChar]

theorem hasChar_eq_false_iff (ch : Char) (s : Str) : hasChar ch s = false ↔ ch ∉ s := by
  rw [← hasChar_iff]; simp

theorem startsWith_cons_singleton (c x : Char) (s : Str) :
    startsWith (c :: s) [x] = (x == c) := by
  simp [startsWith, List.isPrefixOf]

theorem endsWith_concat (s : Str) (c x : Char) : endsWith (s ++ [c]) [x] = (x == c) := by
  simp [endsWith, List.isPrefixOf]

theorem endsWith_joinWith (sep : Char) (ps : List Str) (hne : ps ≠ [])
    (hl : ps.getLast hne ≠ []) (hsep : sep ∉ ps.getLast hne) :
    endsWith (joinWith sep ps) [sep] = false := by
  obtain ⟨a, ha⟩ := joinWith_last sep ps hne
  obtain ⟨v, c, hv⟩ := Lst.snoc_of_ne_nil _ hl
  rw [ha, hv, ← List.append_assoc, endsWith_concat]
  simpa using fun e : sep = c => hsep (by rw [hv, e]; simp)

theorem isInfix_iff (sub s : Str) : isInfix sub s = true ↔ sub <:+: s := by
  induction s with
  | nil => simp [isInfix, List.infix_nil]
  | cons c cs ih =>
    simp only [isInfix, Bool.or_eq_true, ih, List.infix_cons_iff, List.isPrefixOf_iff_prefix]

theorem isInfix_eq_false_iff (sub s : Str) : isInfix sub s = false ↔ ¬ sub <:+: s := by
  rw [← isInfix_iff]; simp

theorem isInfix_nil (s : Str) : isInfix [] s = true :=
  (isInfix_iff _ _).2 List.nil_infix

theorem isInfix_append_left (sub s a : Str) (h : isInfix sub s = true) : isInfix sub (a ++ s) = true :=
  (isInfix_iff _ _).2 (((isInfix_iff _ _).1 h).trans (List.suffix_append _ _).isInfix)

theorem isInfix_joinWith_of_mem (sep : Char) (sub : Str) (ps : List Str) (p : Str) (hp : p ∈ ps)
    (h : isInfix sub p = true) : isInfix sub (joinWith sep ps) = true :=
  (isInfix_iff _ _).2 (((isInfix_iff _ _).1 h).trans (infix_joinWith_of_mem sep ps p hp))

theorem prefix_append_sep (sep : Char) : ∀ (m x a : Str), sep ∉ m →
    (m <+: x ++ sep :: a ↔ m <+: x)
  | [], _, _, _ => by simp
  | c :: m, [], a, h => by
    simp only [List.mem_cons, not_or] at h
    simp only [List.nil_append, List.cons_prefix_cons, List.prefix_nil]
    constructor
    · intro h'; exact absurd h'.1.symm h.1
    · intro h'; exact absurd h' (by simp)
  | c :: m, d :: x, a, h => by
    simp only [List.mem_cons, not_or] at h
    simp only [List.cons_append, List.cons_prefix_cons, prefix_append_sep sep m x a h.2]

/-- a string without the separator occurs in `x + sep + a` only inside `x` or inside `a` -/
theorem infix_append_sep (sep : Char) (m : Str) (hm : sep ∉ m) :
    ∀ (x a : Str), m <:+: x ++ sep :: a ↔ (m <:+: x ∨ m <:+: a)
  | [], a => by
    have := prefix_append_sep sep m [] a hm
    simp only [List.nil_append] at this
    simp only [List.nil_append, List.infix_cons_iff, this, List.infix_nil, List.prefix_nil]
  | d :: x, a => by
    have := prefix_append_sep sep m (d :: x) a hm
    simp only [List.cons_append] at this
    simp only [List.cons_append, List.infix_cons_iff, infix_append_sep sep m hm x a, this, or_assoc]

theorem infix_joinWith_iff (sep : Char) (m : Str) (hm : sep ∉ m) (hne : m ≠ []) (ps : List Str) :
    m <:+: joinWith sep ps ↔ ∃ p ∈ ps, m <:+: p := by
  induction ps with
  | nil => simp [joinWith, hne]
  | cons q qs ih =>
    cases qs with
    | nil => simp [joinWith]
    | cons q' qs => rw [joinWith_cons_cons, infix_append_sep sep m hm, ih]; simp

theorem isInfix_joinWith_sep (sep : Char) (sub : Str) (hs : sep ∉ sub) (ps : List Str) (hne : ps ≠ [])
    (h : isInfix sub (joinWith sep ps) = true) : ∃ p ∈ ps, isInfix sub p = true := by
  by_cases hn : sub = []
  · obtain ⟨p, ps', rfl⟩ := List.exists_cons_of_ne_nil hne
    exact ⟨p, by simp, hn ▸ isInfix_nil p⟩
  · simpa only [isInfix_iff, infix_joinWith_iff sep sub hs hn] using h

theorem mem_joinWith (sep ch : Char) (ps : List Str) (h : ch ≠ sep) :
    ch ∈ joinWith sep ps ↔ ∃ p ∈ ps, ch ∈ p := by
  simp only [← singleton_infix]
  exact infix_joinWith_iff sep [ch] (by simpa using Ne.symm h) (by simp) ps

theorem mem_iff_mem_splitOn (sep ch : Char) (s : Str) (h : ch ≠ sep) :
    ch ∈ s ↔ ∃ p ∈ splitOn sep s, ch ∈ p := by
  rw [← mem_joinWith sep ch _ h, join_split]

theorem not_mem_of_segs {sep : Char} (s : Str) (ch : Char) (hch : ch ≠ sep)
    (h : ∀ seg ∈ splitOn sep s, ch ∉ seg) : ch ∉ s :=
  fun hm => let ⟨p, hp, hc⟩ := (mem_iff_mem_splitOn sep ch s hch).1 hm; h p hp hc

/-! ### the first separator: `first_sep`, `split1` -/

theorem first_sep (sep : Char) (s : Str) :
    sep ∉ s ∨ ∃ p rest, s = p ++ sep :: rest ∧ sep ∉ p := by
  induction s with
  | nil => simp
  | cons c cs ih =>
    by_cases hc : c = sep
    · right; exact ⟨[], cs, by simp [hc], by simp⟩
    · rcases ih with h | ⟨p, rest, h1, h2⟩
      · left; simp only [List.mem_cons, not_or]; exact ⟨fun e => hc e.symm, h⟩
      · right; refine ⟨c :: p, rest, by simp [h1], ?_⟩
        simp only [List.mem_cons, not_or]; exact ⟨fun e => hc e.symm, h2⟩

theorem first_sep_unique (sep : Char) (p q r1 r2 : Str) (hp : sep ∉ p) (hq : sep ∉ q)
    (h : p ++ sep :: r1 = q ++ sep :: r2) : p = q ∧ r1 = r2 := by
  have e := congrArg (splitOn sep) h
  rw [splitOn_append_sep sep p r1 hp, splitOn_append_sep sep q r2 hq] at e
  obtain rfl : p = q := (List.cons.inj e).1
  exact ⟨rfl, (List.cons.inj (List.append_cancel_left h)).2⟩

theorem split1_none (sep : Char) (s : Str) (h : sep ∉ s) : split1 sep s = (s, none) := by
  induction s with
  | nil => simp [split1]
  | cons c cs ih =>
    have hc : c ≠ sep := by intro e; apply h; simp [e]
    have hcs : sep ∉ cs := by intro e; apply h; simp [e]
    simp [split1, hc, ih hcs]

theorem split1_some (sep : Char) (p rest : Str) (h : sep ∉ p) :
    split1 sep (p ++ sep :: rest) = (p, some rest) := by
  induction p with
  | nil => simp [split1]
  | cons c cs ih =>
    have hc : c ≠ sep := by intro e; apply h; simp [e]
    have hcs : sep ∉ cs := by intro e; apply h; simp [e]
    simp [split1, hc, ih hcs]

/-! ### `strip` -/

theorem lstrip_suffix : ∀ s : Str, lstrip s <:+ s
  | [] => List.suffix_rfl
  | c :: cs => by
    simp only [lstrip]; split
    · exact (lstrip_suffix cs).trans (List.suffix_cons c cs)
    · exact List.suffix_rfl

theorem lstrip_head : ∀ s : Str, lstrip s = [] ∨ ∃ c cs, lstrip s = c :: cs ∧ isPySpace c = false
  | [] => Or.inl rfl
  | c :: cs => by
    simp only [lstrip]
    split
    · exact lstrip_head cs
    · next h => exact Or.inr ⟨c, cs, rfl, by simpa using h⟩

theorem lstrip_fix (c : Char) (cs : Str) (h : isPySpace c = false) : lstrip (c :: cs) = c :: cs := by
  simp [lstrip, h]

/-- a prefix of a left-stripped string begins with its non-space, so it is a fixed point -/
theorem lstrip_of_prefix (s : Str) : ∀ a : Str, a <+: lstrip s → lstrip a = a
  | [], _ => rfl
  | c :: a, h => by
    rcases lstrip_head s with h0 | ⟨d, u, hu, hd⟩
    · rw [h0] at h; simp at h
    · rw [hu] at h
      exact lstrip_fix c a ((List.cons_prefix_cons.1 h).1 ▸ hd)

theorem lstrip_idem (s : Str) : lstrip (lstrip s) = lstrip s :=
  lstrip_of_prefix s _ (List.prefix_refl _)

theorem strip_prefix_lstrip (s : Str) : strip s <+: lstrip s := by
  have := List.reverse_prefix.2 (lstrip_suffix (lstrip s).reverse)
  simpa [strip] using this

theorem strip_infix (s : Str) : strip s <:+: s :=
  (strip_prefix_lstrip s).isInfix.trans (lstrip_suffix s).isInfix

/-- `strip s` is a prefix of `lstrip s`, hence left-stripped; its reverse is a `lstrip` -/
theorem strip_idem (s : Str) : strip (strip s) = strip s := by
  have h := lstrip_of_prefix s _ (strip_prefix_lstrip s)
  unfold strip at h ⊢
  rw [h, List.reverse_reverse, lstrip_idem]

/-! ### order -/

def charLt (a b : Char) : Bool := decide (a.toNat < b.toNat)

theorem charLt_sto : Lst.STO charLt where
  irrefl a := by simp [charLt]
  trans a b c hab hbc := by simp [charLt] at *; omega
  tri a b hab hba := by
    simp [charLt] at *
    exact Char.toNat_inj.1 (by omega)

theorem lt_eq_lexLt : ∀ a b : Str, lt a b = Lst.lexLt charLt a b
  | [], [] => rfl
  | [], _ :: _ => rfl
  | _ :: _, [] => rfl
  | a :: as, b :: bs => by
    simp only [lt, Lst.lexLt, charLt, lt_eq_lexLt as bs, decide_eq_true_eq, gt_iff_lt]

theorem lt_sto : Lst.STO lt := by
  have : lt = Lst.lexLt charLt := by funext a b; exact lt_eq_lexLt a b
  rw [this]; exact Lst.lexLt_sto charLt_sto

theorem ltList_eq_lexLt : ∀ a b : List Str, ltList a b = Lst.lexLt lt a b
  | [], [] => rfl
  | [], _ :: _ => rfl
  | _ :: _, [] => rfl
  | a :: as, b :: bs => by
    simp only [ltList, Lst.lexLt, ltList_eq_lexLt as bs]

theorem ltList_sto : Lst.STO ltList := by
  have : ltList = Lst.lexLt lt := by funext a b; exact ltList_eq_lexLt a b
  rw [this]; exact Lst.lexLt_sto lt_sto

theorem ltList_common_prefix (pre : List Str) (a b : Str) (ra rb : List Str) (hab : lt a b = true) :
    ltList (pre ++ a :: ra) (pre ++ b :: rb) = true := by
  induction pre with
  | nil => simp [ltList, hab]
  | cons p ps ih =>
    have hirr : lt p p = false := lt_sto.irrefl p
    simp [ltList, hirr, ih]

theorem ltList_take_between (i : Nat) (a b c : List Str) (hab : ltList a b = false)
    (hbc : ltList b c = false) (hac : a.take i = c.take i) : b.take i = a.take i := by
  rw [ltList_eq_lexLt] at hab hbc
  exact Lst.lexLt_take_between lt_sto i a b c hab hbc hac

end Str
