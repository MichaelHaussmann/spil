/-
  Spil.Lemmas.DenoteExpand — the typing stage of `unfold_search`: `expand` on ONE plain string, read
  through `Spec.DenotesPlain` / `Spec.MalformedPlain` (`expand_spec`).  Its two halves have the same
  shape: `simpleTyping_spec` (no "/**") and `expand_stars` (one "/**", whose template loop and loop
  invariant stay inside this file).
-/
import Spil.Spec.Denote
import Spil.Lemmas.Expand
import Spil.Props.C04

namespace DenL

open Spec Ctx ExpL

/-! ### the members of a result: typed searches of templates, and leftovers -/

/-- the untyped results of typing a plain string are harmless place holders -/
def Leftover (x : Sid) : Prop := ∃ u, x = Sid.untyped u ∧ '?' ∉ u ∧ ':' ∉ u

theorem leftover_untyped {x : Sid} (h : Leftover x) : x.typed = false := by
  obtain ⟨u, rfl, _, _⟩ := h
  rfl

theorem typedAs_typed {e : Env} {ts : List (Str × Template)} (hwf : sidTableOk e ts = true)
    (p : Str × Template) (hp : p ∈ ts) (s : Str) : (typedAs p.1 p.2 s).typed = true := by
  have := SidL.fieldsOf_ne_nil p.2 s
    (SidL.tplOk_unpack _ _ (SidL.tableOk_tplOk hwf hp)).ne_nil
  simpa [typedAs, Sid.typed] using this

/-- what typing the plain string `s` may return: the typed search of a template accepting `s`, or a
    leftover -/
def Typing (c : Ctx) (s : Str) (x : Sid) : Prop :=
  (∃ p ∈ c.cfg.sid.templates, accepts c.env p.2 s = true ∧ s ≠ [] ∧ x = typedAs p.1 p.2 s) ∨
    Leftover x

theorem plainOf_typing (c : Ctx) (s : Str) (hq : '?' ∉ s) (hc : ':' ∉ s) :
    Typing c s (plainOf c s) := by
  unfold plainOf
  by_cases hs : s = []
  · subst hs
    exact Or.inr ⟨[], rfl, by simp, by simp⟩
  · have hs' : s.isEmpty = false := by simp [hs]
    simp only [hs', Bool.false_eq_true, if_false]
    unfold plainSid
    cases hf : firstAccepting c.env c.cfg.sid.templates s with
    | none => exact Or.inr ⟨s, rfl, hq, hc⟩
    | some q =>
      obtain ⟨hmem, hacc⟩ := SidL.firstAccepting_inv _ _ _ _ _ hf
      exact Or.inl ⟨q, hmem, hacc, hs, rfl⟩

theorem forcedSid_typing (c : Ctx) (l s : Str) (hq : '?' ∉ s) (hc : ':' ∉ s) :
    Typing c s (forcedSid c.env c.cfg.sid.templates l s) := by
  rcases forcedSid_cases c.env c.cfg.sid.templates l s with hy | ⟨t, hl, hne, hacc, hy⟩
  · exact Or.inr ⟨s, hy, hq, hc⟩
  · exact Or.inl ⟨(l, t), Lst.lookup_mem _ _ _ hl, hacc, hne, hy⟩

theorem typing_typed_or_leftover (c : Ctx) (hwf : sidTableOk c.env c.cfg.sid.templates = true)
    {s : Str} {x : Sid} (h : Typing c s x) : x.typed = true ∨ Leftover x := by
  rcases h with ⟨p, hp, _, _, rfl⟩ | hlo
  · exact Or.inl (typedAs_typed hwf p hp s)
  · exact Or.inr hlo

/-! ### the uri determines the Sid -/

def IsLabel (c : Ctx) (l : Str) : Prop := ∃ t, (l, t) ∈ c.cfg.sid.templates

theorem label_plain (c : Ctx) (hwf : sidHierOk c.env c.cfg.sid.templates = true) {l : Str}
    (h : IsLabel c l) : l ≠ [] ∧ ':' ∉ l ∧ '?' ∉ l := by
  obtain ⟨htab, _, _, hlab⟩ := HierL.hier_unpack _ _ hwf
  obtain ⟨t, ht⟩ := h
  exact ⟨HierL.tableOk_label_ne_nil _ _ htab _ ht, hlab _ ht⟩

theorem uri_label_inj (c : Ctx) (hwf : sidHierOk c.env c.cfg.sid.templates = true) (x x' : Sid)
    (hx : IsLabel c x.type) (hx' : IsLabel c x'.type) (hu : x'.uri = x.uri) :
    x'.type = x.type ∧ x'.string = x.string := by
  obtain ⟨hne, hc, _⟩ := label_plain c hwf hx
  obtain ⟨hne', hc', _⟩ := label_plain c hwf hx'
  exact C14.c14_uri_inj x' x hc' hc (fun e => absurd e hne') (fun e => absurd e hne) hu

/-- the second case of `hs` is for a refusal `string?q` of narrowing next to a query-free `x` -/
theorem uri_label_ne_untyped (c : Ctx) (hwf : sidHierOk c.env c.cfg.sid.templates = true)
    (x x' : Sid) (hx : IsLabel c x.type) (ht : x'.type = [])
    (hs : ':' ∉ x'.string ∨ ('?' ∈ x'.string ∧ '?' ∉ x.string)) : x'.uri ≠ x.uri := by
  obtain ⟨hne, _, hq⟩ := label_plain c hwf hx
  rw [HierL.uri_of_type_ne_nil hne, HierL.uri_of_type_nil ht]
  intro hu
  rw [hu] at hs
  simp only [List.mem_append, List.mem_cons, true_or, or_true, not_true, false_or] at hs
  rcases hs with ⟨h | h | h, hqx⟩
  · exact hq h
  · cases h
  · exact hqx h

theorem typedBy_uri_inj (c : Ctx) (hwf : sidHierOk c.env c.cfg.sid.templates = true) {x x' : Sid}
    {t t' : Template} (hx : HierL.TypedBy c.env c.cfg.sid.templates x t)
    (hx' : HierL.TypedBy c.env c.cfg.sid.templates x' t') (hu : x'.uri = x.uri) : x' = x := by
  obtain ⟨hty, hstr⟩ := uri_label_inj c hwf x x' ⟨t, hx.mem⟩ ⟨t', hx'.mem⟩ hu
  exact hx'.ext hx (HierL.hier_table hwf) hty hstr

theorem wellTyped_uri_inj (c : Ctx) (hwf : sidHierOk c.env c.cfg.sid.templates = true) (x x' : Sid)
    (hx : wellTyped c.env c.cfg.sid.templates x) (hx' : wellTyped c.env c.cfg.sid.templates x')
    (hu : x'.uri = x.uri) : x' = x :=
  let ⟨_, ht, _⟩ := HierL.wellTyped_typedBy hx
  let ⟨_, ht', _⟩ := HierL.wellTyped_typedBy hx'
  typedBy_uri_inj c hwf ht ht' hu

theorem mem_sortSids_typing (c : Ctx) (hwf : sidHierOk c.env c.cfg.sid.templates = true)
    (L : List Sid) (hL : ∀ y ∈ L, ∃ u, Typing c u y) (x : Sid) (ht : x.typed = true) :
    x ∈ Ctx.sortSids L ↔ x ∈ L := by
  refine ⟨mem_of_mem_sortSids, fun hx => ?_⟩
  rcases hL x hx with ⟨u, ⟨p, hp, hacc, _, rfl⟩ | hlo⟩
  · obtain ⟨y, hy, huri⟩ := sortSids_cover L _ hx
    rcases hL y (mem_of_mem_sortSids hy) with ⟨v, ⟨q, hq, hacc', _, rfl⟩ | hlo⟩
    · rw [← typedBy_uri_inj c hwf (t := p.2) (t' := q.2) ⟨hp, hacc, rfl⟩ ⟨hq, hacc', rfl⟩ huri]
      exact hy
    · obtain ⟨w, rfl, _, hc⟩ := hlo
      exact absurd huri (uri_label_ne_untyped c hwf (typedAs p.1 p.2 u) _ ⟨p.2, hp⟩ rfl (Or.inl hc))
  · rw [leftover_untyped hlo] at ht
    cases ht

/-! ### `expand`: the inner loop -/

/-- the test `data and list(data)[-1] == leaf_key` -/
private def leafCond (lk : Option Str) (d : Dict) : Bool := !d.isEmpty && (d.getLast?.map (·.1) == lk)

private theorem expandMatching_eq (c : Ctx) (u : Str) (lk : Option Str) (F : Str → Sid) :
    ∀ (M : List (Str × Dict)) (st : Ctx.ExpandSt),
      (∀ p ∈ M, c.typedSearch p.1 u [] = .ok (F p.1)) →
      Ctx.expandMatching c u [] lk false M st =
        .ok ⟨st.tested, st.found ++ M.map (·.1),
          st.result ++ (M.filter (fun p => leafCond lk p.2)).map (fun p => F p.1)⟩
  | [], st, _ => by simp [Ctx.expandMatching]
  | (ty, d) :: M, st, h => by
    have h1 := h (ty, d) (by simp)
    have ih := fun st' => expandMatching_eq c u lk F M st' (fun p hp => h p (by simp [hp]))
    simp only [Ctx.expandMatching, Bool.false_or]
    by_cases hc : leafCond lk d = true
    · have hc' : (!d.isEmpty && (d.getLast?.map (·.1) == lk)) = true := hc
      simp only [hc', if_true, h1, ih, List.filter_cons, hc, List.map_cons, List.append_assoc,
        List.cons_append, List.nil_append]
    · have hc' : (!d.isEmpty && (d.getLast?.map (·.1) == lk)) = false := by
        simpa [leafCond] using hc
      simp only [hc', Bool.false_eq_true, if_false, ih, List.filter_cons, hc, List.map_cons,
        List.append_assoc, List.cons_append, List.nil_append]

/-! ### `expand`: the template loop -/

/-- the number of "/*" levels `expand` tries for template `t` -/
private def needed (s : Str) (t : Template) : Nat := Ctx.tplKeysLen t - 1 + 1 - Str.countChar '/' s

private def testOf (s : Str) (t : Template) : Str := fill s (needed s t)

/-- loop invariant of `expand`: the tested strings are fillings of `s`, and the types found and the
    results are what the tested strings contributed, in order -/
private structure Inv (c : Ctx) (s : Str) (lk : Option Str) (st : Ctx.ExpandSt) : Prop where
  tested_fill : ∀ u ∈ st.tested, ∃ k, u = fill s k
  found_eq : st.found = st.tested.flatMap (fun u => (lenM c u).map (·.1))
  result_eq : st.result = st.tested.flatMap (fun u => ((lenM c u).filter (fun p => leafCond lk p.2)).map
    (fun p => forcedSid c.env c.cfg.sid.templates p.1 u))

private theorem Inv.mem_result {c : Ctx} {s : Str} {lk : Option Str} {st : Ctx.ExpandSt}
    (h : Inv c s lk st) (x : Sid) : x ∈ st.result ↔ ∃ u ∈ st.tested, ∃ l d, (l, d) ∈ lenM c u ∧
      leafCond lk d = true ∧ x = forcedSid c.env c.cfg.sid.templates l u := by
  rw [h.result_eq]
  simp only [List.mem_flatMap, List.mem_map, List.mem_filter]
  constructor
  · rintro ⟨u, hu, ⟨l, d⟩, ⟨hp, hc⟩, rfl⟩
    exact ⟨u, hu, l, d, hp, hc, rfl⟩
  · rintro ⟨u, hu, l, d, hp, hc, rfl⟩
    exact ⟨u, hu, (l, d), ⟨hp, hc⟩, rfl⟩

/-- sound: the template that typed a typed result passed the leaf test -/
private theorem Inv.sound {c : Ctx} {s lk : Str} {st : Ctx.ExpandSt} (h : Inv c s (some lk) st)
    (hwf : sidTableOk c.env c.cfg.sid.templates = true) (x : Sid) (hx : x ∈ st.result)
    (ht : x.typed = true) :
    ∃ k, ∃ p ∈ c.cfg.sid.templates, (keysOf p.2).getLast? = some lk ∧
      accepts c.env p.2 (fill s k) = true ∧ x = typedAs p.1 p.2 (fill s k) := by
  obtain ⟨u, hu, l, d, hd, hcd, rfl⟩ := (h.mem_result x).1 hx
  obtain ⟨k, rfl⟩ := h.tested_fill u hu
  obtain ⟨t, hmem, _, hacc, hx'⟩ := forcedSid_typed _ _ l (fill s k) ht
  obtain ⟨_, t', ht', m, _, hacc', rfl⟩ := lenM_inv c hwf _ _ _ hd
  have := tpl_unique hwf l t' t ht' hmem
  subst this
  simp only [leafCond, Bool.and_eq_true, beq_iff_eq] at hcd
  exact ⟨k, (l, t'), hmem, (fieldsOf_last c.env t' m hacc').symm.trans hcd.2, hacc, hx'⟩

/-- complete: a leaf template is tried (`hall`) with exactly the filled string it accepts (`hcount`) -/
private theorem Inv.complete {c : Ctx} {s lk : Str} {st : Ctx.ExpandSt} (h : Inv c s (some lk) st)
    (hwf : sidTableOk c.env c.cfg.sid.templates = true)
    (hall : ∀ p ∈ c.cfg.sid.templates, (Ctx.tplLastKey p.2 == some lk) = true → testOf s p.2 ∈ st.tested)
    (hcount : ∀ p ∈ c.cfg.sid.templates, ∀ k d, (p.1, d) ∈ lenM c (fill s k) → fill s k = testOf s p.2)
    (k : Nat) (hne : fill s k ≠ []) (p : Str × Template) (hp : p ∈ c.cfg.sid.templates)
    (hleaf : (keysOf p.2).getLast? = some lk) (hacc : accepts c.env p.2 (fill s k) = true) :
    typedAs p.1 p.2 (fill s k) ∈ st.result := by
  have hin := lenM_of_accepts c hwf (fill s k) hne p hp hacc
  have htest : fill s k ∈ st.tested := by
    rw [hcount p hp k _ hin]
    apply hall p hp
    rw [(tplKeys_of_ok c.env p.2 (SidL.tableOk_tplOk hwf hp)).lastKey, hleaf]
    exact beq_self_eq_true _
  have hcd : leafCond (some lk) (fieldsOf p.2 (fill s k)) = true := by
    simp only [leafCond, Bool.and_eq_true, beq_iff_eq, Bool.not_eq_true', List.isEmpty_eq_false_iff]
    exact ⟨SidL.fieldsOf_ne_nil p.2 _ (SidL.tplOk_unpack _ _ (SidL.tableOk_tplOk hwf hp)).ne_nil,
      by rw [fieldsOf_last c.env p.2 _ hacc, hleaf]⟩
  rw [← forcedSid_of_accepts hwf p hp _ hne hacc]
  exact (h.mem_result _).2 ⟨_, htest, _, _, hin, hcd, rfl⟩

/-- the template loop keeps the invariant, only adds tested strings (third conjunct) and tests the
    own string of every leaf template (fourth).  With `hcount` (a template matching a filling is
    tried with exactly that filling: `fill_count`) the fourth gives completeness -/
private theorem expandGo_spec (c : Ctx) (hwf : sidHierOk c.env c.cfg.sid.templates = true) (s : Str)
    (hq : ∀ k, '?' ∉ fill s k) (lk : Option Str)
    (hcount : ∀ p ∈ c.cfg.sid.templates, ∀ k d, (p.1, d) ∈ lenM c (fill s k) →
      fill s k = testOf s p.2) :
    ∀ (rest : List (Str × Template)) (st : Ctx.ExpandSt),
      (∀ p ∈ rest, p ∈ c.cfg.sid.templates) → Inv c s lk st →
      ∃ st', Ctx.expandGo c s [] lk false rest st = .ok st' ∧ Inv c s lk st' ∧
        (∀ u ∈ st.tested, u ∈ st'.tested) ∧
        ∀ p ∈ rest, (Ctx.tplLastKey p.2 == lk) = true → testOf s p.2 ∈ st'.tested
  | [], st, _, hinv => ⟨st, rfl, hinv, fun _ h => h, by simp⟩
  | (key, t) :: rest, st, hsub, hinv => by
    obtain ⟨htab, _, _, _⟩ := HierL.hier_unpack _ _ hwf
    have hsub' : ∀ p ∈ rest, p ∈ c.cfg.sid.templates := fun p hp => hsub p (by simp [hp])
    have hkt : (key, t) ∈ c.cfg.sid.templates := hsub _ (by simp)
    have htest : Str.replace s ['/', '*', '*']
        (List.replicate (Ctx.tplKeysLen t - 1 + 1 - Str.countChar '/' s) ['/', '*']).flatten =
        testOf s t := rfl
    simp only [Ctx.expandGo, Bool.false_or, htest]
    -- the three ways of skipping the template keep the state
    have skip : ((Ctx.tplLastKey t == lk) = true → testOf s t ∈ st.tested) →
        ∃ st', Ctx.expandGo c s [] lk false rest st = .ok st' ∧ Inv c s lk st' ∧
          (∀ u ∈ st.tested, u ∈ st'.tested) ∧
          ∀ p ∈ (key, t) :: rest, (Ctx.tplLastKey p.2 == lk) = true → testOf s p.2 ∈ st'.tested := by
      intro hk
      obtain ⟨st', h1, h2, h3, h4⟩ := expandGo_spec c hwf s hq lk hcount rest st hsub' hinv
      refine ⟨st', h1, h2, h3, ?_⟩
      intro p hp hleaf
      simp only [List.mem_cons] at hp
      rcases hp with rfl | hp
      · exact h3 _ (hk hleaf)
      · exact h4 p hp hleaf
    by_cases hf : st.found.contains key = true
    · simp only [hf, if_true]
      have hk : key ∈ st.found := by simpa using hf
      rw [hinv.found_eq] at hk
      simp only [List.mem_flatMap, List.mem_map] at hk
      obtain ⟨u, hu, ⟨_, d⟩, hd, rfl⟩ := hk
      obtain ⟨k, rfl⟩ := hinv.tested_fill u hu
      apply skip
      intro _
      rw [← hcount _ hkt k d hd]
      exact hu
    · simp only [hf, Bool.false_eq_true, if_false]
      by_cases hleaf : (Ctx.tplLastKey t == lk) = true
      · simp only [hleaf, if_true]
        by_cases ht : st.tested.contains (testOf s t) = true
        · simp only [ht, if_true]
          exact skip fun _ => by simpa using ht
        · simp only [ht, Bool.false_eq_true, if_false, sidToDicts_eq]
          have hF : ∀ p ∈ lenM c (testOf s t), c.typedSearch p.1 (testOf s t) [] =
              .ok ((fun l => forcedSid c.env c.cfg.sid.templates l (testOf s t)) p.1) := by
            rintro ⟨l, d⟩ hp
            obtain ⟨_, t', ht', _⟩ := lenM_inv c htab _ l d hp
            exact typedSearch_eq c hwf l t' ht' _ (hq _)
          rw [expandMatching_eq c (testOf s t) lk (fun l => forcedSid c.env c.cfg.sid.templates l (testOf s t))
            (lenM c (testOf s t)) _ hF]
          simp only
          have hinv1 : Inv c s lk ⟨st.tested ++ [testOf s t],
              st.found ++ (lenM c (testOf s t)).map (·.1),
              st.result ++ ((lenM c (testOf s t)).filter (fun p => leafCond lk p.2)).map
                (fun p => forcedSid c.env c.cfg.sid.templates p.1 (testOf s t))⟩ := by
            refine ⟨fun u hu => ?_, by simp [hinv.found_eq, List.flatMap_append],
              by simp [hinv.result_eq, List.flatMap_append]⟩
            rcases List.mem_append.1 hu with hu | hu
            · exact hinv.tested_fill u hu
            · exact ⟨_, List.mem_singleton.1 hu⟩
          obtain ⟨st', h1, h2, h3, h4⟩ := expandGo_spec c hwf s hq lk hcount rest _ hsub' hinv1
          refine ⟨st', h1, h2, fun u hu => h3 u (by simp [hu]), ?_⟩
          intro p hp hl
          simp only [List.mem_cons] at hp
          rcases hp with rfl | hp
          · exact h3 _ (by simp)
          · exact h4 p hp hl
      · simp only [hleaf, Bool.false_eq_true, if_false]
        exact skip fun hl => absurd hl hleaf

/-- segment counting: a template matching (leniently) the string filled with `k` levels is tried
    by `expand` with exactly this string -/
private theorem fill_count (c : Ctx) (hwf : sidTableOk c.env c.cfg.sid.templates = true) (s a b : Str)
    (hs : s = a ++ slashStars ++ b) (hfill : ∀ k, fill s k = a ++ stars k ++ b)
    (p : Str × Template) (hp : p ∈ c.cfg.sid.templates) (k : Nat) (d : Dict)
    (hd : (p.1, d) ∈ lenM c (fill s k)) : fill s k = testOf s p.2 := by
  obtain ⟨_, t', ht', m, hm, hacc, _⟩ := lenM_inv c hwf _ _ _ hd
  have := tpl_unique hwf p.1 t' p.2 ht' hp
  subst this
  obtain ⟨hlen, _, hpos⟩ := tplKeys_of_ok c.env p.2 (SidL.tableOk_tplOk hwf hp)
  have hsegs := SidL.acceptsSegs_length _ _ _ hacc
  rw [Str.splitOn_length] at hsegs
  have hcm : Str.countChar '/' (fill s k) = Str.countChar '/' m := by
    rcases hm with e | e
    · rw [e]
    · rw [e, Str.countChar_append]; simp [Str.countChar]
  rw [hfill k, Str.countChar_append, Str.countChar_append, countChar_stars] at hcm
  have hcs : Str.countChar '/' s = Str.countChar '/' a + 1 + Str.countChar '/' b := by
    rw [hs, Str.countChar_append, Str.countChar_append]
    simp [slashStars, Str.countChar]
  unfold testOf needed
  congr 1
  rw [hlen, hcs]
  omega

/-! ### the leaf key of the root: Spec level ↔ model level -/

theorem rootLeafKey_eq (c : Ctx) (hwf : sidTableOk c.env c.cfg.sid.templates = true) (root : Str) :
    rootLeafKey c root =
      match c.basetype (plainOf c root) with
      | none => none
      | some bt =>
        match c.cfg.sid.leafKey (some bt) with
        | none => none
        | some lk => if lk.isEmpty then none else some lk := by
  unfold rootLeafKey plainOf
  by_cases hr : root.isEmpty = true
  · simp [hr, Ctx.basetype, Sid.empty]
  · simp only [hr, Bool.false_eq_true, if_false]
    unfold plainSid
    cases hf : firstAccepting c.env c.cfg.sid.templates root with
    | none => simp [Ctx.basetype, Sid.untyped]
    | some q =>
      obtain ⟨l, t⟩ := q
      have hmem := (SidL.firstAccepting_inv _ _ _ _ _ hf).1
      have hne := HierL.tableOk_label_ne_nil _ _ hwf (l, t) hmem
      have : l.isEmpty = false := by simp [hne]
      simp only [Ctx.basetype, this, Bool.false_eq_true, if_false, basetypeOf]
      rfl

theorem rootLeafKey_some (c : Ctx) (hwf : sidTableOk c.env c.cfg.sid.templates = true)
    (root lk : Str) :
    rootLeafKey c root = some lk ↔
      lk ≠ [] ∧ ∃ bt, c.basetype (plainOf c root) = some bt ∧
        c.cfg.sid.leafKey (some bt) = some lk := by
  rw [rootLeafKey_eq c hwf]
  constructor
  · intro h
    split at h
    · cases h
    · next bt hb =>
      split at h
      · cases h
      · next lk' hlk =>
        split at h
        · cases h
        · next he =>
          cases h
          exact ⟨by simpa using he, bt, hb, hlk⟩
  · rintro ⟨hne, bt, hb, hlk⟩
    simp [hb, hlk, hne]

theorem rootLeafKey_ne_nil {c : Ctx} {root lk : Str} (h : rootLeafKey c root = some lk) : root ≠ [] := by
  rintro rfl
  simp [rootLeafKey] at h

theorem rootOf_plain (a : Str) (hq : '?' ∉ a) (hc : ':' ∉ a)
    (h1 : Str.count a slashStars = 1) : '?' ∉ rootOf a ∧ ':' ∉ rootOf a := by
  obtain ⟨x0, b, hs, _, hroot⟩ := fill_decomp a h1
  rw [hroot]
  exact ⟨fun h => hq (by simp [hs, h]), fun h => hc (by simp [hs, h])⟩

/-! ### one "/**" -/

private theorem expand_one (c : Ctx) (hwf : sidTableOk c.env c.cfg.sid.templates = true) (s : Str)
    (hq : '?' ∉ s) (hc : ':' ∉ s) (h1 : Str.count s slashStars = 1) :
    c.expand s false =
      match rootLeafKey c (rootOf s) with
      | none => .error .spil
      | some lk =>
        match Ctx.expandGo c s [] (some lk) false c.cfg.sid.templates ⟨[], [], []⟩ with
        | .error x => .error x
        | .ok st => .ok (Ctx.sortSids st.result) := by
  obtain ⟨hqa, hca⟩ := rootOf_plain s hq hc h1
  have hr := sidOfString_plain c hwf (rootOf s) hqa hca
  rw [rootLeafKey_eq c hwf]
  unfold rootOf at hr ⊢
  unfold Ctx.expand
  simp only [show Str.count s ['/', '*', '*'] = 1 from h1, Str.split1_none '?' s hq, hr]
  cases c.basetype (plainOf c (((Str.splitStr s ['/', '*', '*']).head?).getD [])) with
  | none => simp
  | some bt =>
    simp only []
    cases c.cfg.sid.leafKey (some bt) with
    | none => simp
    | some lk =>
      by_cases hle : lk = []
      · subst hle; simp
      · have : lk.isEmpty = false := by simp [hle]
        simp [this]
        rfl

/-- `expand` on a plain string with exactly one "/**": SpilException when the root has no leaf key;
    otherwise a result whose typed members are exactly the typed searches of the LEAF templates
    accepting the string filled with some number of "/*" levels, and whose other members are
    leftovers -/
theorem expand_stars (c : Ctx) (hwf : sidHierOk c.env c.cfg.sid.templates = true) (a : Str)
    (hq : '?' ∉ a) (hc : ':' ∉ a) (h1 : Str.count a slashStars = 1) :
    (rootLeafKey c (rootOf a) = none ∧ c.expand a false = .error .spil) ∨
    (∃ lk, rootLeafKey c (rootOf a) = some lk) ∧ ∃ r, c.expand a false = .ok r ∧
      (∀ x ∈ r, x.typed = true ∨ Leftover x) ∧
      ∀ x, (x ∈ r ∧ x.typed = true) ↔
        ∃ lk k, rootLeafKey c (rootOf a) = some lk ∧ ∃ p ∈ c.cfg.sid.templates,
          (keysOf p.2).getLast? = some lk ∧
          accepts c.env p.2 (fill a k) = true ∧ x = typedAs p.1 p.2 (fill a k) := by
  have htab := HierL.hier_table hwf
  rw [expand_one c htab a hq hc h1]
  cases hrk : rootLeafKey c (rootOf a) with
  | none => exact Or.inl ⟨rfl, rfl⟩
  | some lk =>
    obtain ⟨x0, b, hs, hfill, _⟩ := fill_decomp a h1
    have hqf : ∀ k, '?' ∉ fill a k := fun k => not_mem_fill a h1 k '?' (by decide) (by decide) hq
    have hcf : ∀ k, ':' ∉ fill a k := fun k => not_mem_fill a h1 k ':' (by decide) (by decide) hc
    have hne := fill_ne_nil a h1 (rootLeafKey_ne_nil hrk)
    have hcount := fun p hp k d => fill_count c htab a x0 b hs hfill p hp k d
    obtain ⟨st, hgo, hinv, _, hall⟩ := expandGo_spec c hwf a hqf (some lk) hcount
      c.cfg.sid.templates ⟨[], [], []⟩ (fun _ h => h) ⟨by simp, rfl, rfl⟩
    simp only [hgo]
    have hmem : ∀ x ∈ st.result, ∃ u, Typing c u x := by
      intro x hx
      obtain ⟨u, hu, l, d, _, _, rfl⟩ := (hinv.mem_result x).1 hx
      obtain ⟨k, rfl⟩ := hinv.tested_fill u hu
      exact ⟨_, forcedSid_typing c l _ (hqf k) (hcf k)⟩
    refine Or.inr ⟨⟨lk, rfl⟩, _, rfl, fun x hx => ?_, fun x => ⟨fun ⟨hx, ht⟩ => ?_, ?_⟩⟩
    · obtain ⟨_, h⟩ := hmem x (mem_of_mem_sortSids hx)
      exact typing_typed_or_leftover c htab h
    · obtain ⟨k, h⟩ := hinv.sound htab x (mem_of_mem_sortSids hx) ht
      exact ⟨lk, k, rfl, h⟩
    · rintro ⟨_, k, hlk, p, hp, hleaf, hacc, rfl⟩
      cases hlk
      have ht := typedAs_typed htab p hp (fill a k)
      exact ⟨(mem_sortSids_typing c hwf _ hmem _ ht).2
        (hinv.complete htab hall hcount k (hne k) p hp hleaf hacc), ht⟩

/-! ### no "/**" -/

/-- unlike `simpleTyping_spec`, no condition on the root -/
theorem simpleTyping_members (c : Ctx) (hwf : sidHierOk c.env c.cfg.sid.templates = true) (s : Str)
    (hq : '?' ∉ s) (hc : ':' ∉ s) (r : List Sid) (h : c.simpleTyping s = .ok r) :
    ∀ x ∈ r, Typing c s x := by
  rw [simpleTyping_eq c hwf s hq hc] at h
  cases h
  intro x hx
  have hplain : ∀ x ∈ [plainOf c s], Typing c s x := by
    intro x hx
    rw [List.mem_singleton.1 hx]
    exact plainOf_typing c s hq hc
  split at hx
  · exact hplain x hx
  · split at hx
    · exact hplain x hx
    · obtain ⟨⟨l, d⟩, _, rfl⟩ := List.mem_map.1 (mem_of_mem_sortSids hx)
      exact forcedSid_typing c l s hq hc

/-- `simple_typing` on a plain string that does not start with "/*": a result whose typed members
    are exactly the typed searches of the templates accepting the string, and whose other members
    are leftovers -/
theorem simpleTyping_spec (c : Ctx) (hwf : sidHierOk c.env c.cfg.sid.templates = true) (s : Str)
    (hq : '?' ∉ s) (hc : ':' ∉ s) (hr : ¬ ['/', '*'] <+: s) :
    ∃ r, c.simpleTyping s = .ok r ∧ (∀ x ∈ r, x.typed = true ∨ Leftover x) ∧
      ∀ x, (x ∈ r ∧ x.typed = true) ↔
        ∃ p ∈ c.cfg.sid.templates, accepts c.env p.2 s = true ∧ s ≠ [] ∧ x = typedAs p.1 p.2 s := by
  obtain ⟨htab, _, _, _⟩ := HierL.hier_unpack _ _ hwf
  have he := simpleTyping_eq c hwf s hq hc
  have hmem := simpleTyping_members c hwf s hq hc _ he
  refine ⟨_, he, fun x hx => typing_typed_or_leftover c htab (hmem x hx), fun x => ⟨?_, ?_⟩⟩
  · rintro ⟨hx, ht⟩
    rcases hmem x hx with h | hlo
    · exact h
    · rw [leftover_untyped hlo] at ht
      cases ht
  · -- complete: the root has a basetype, and `sorted(set(…))` keeps the typed search
    rintro ⟨p, hp, hacc, hne, rfl⟩
    have ht := typedAs_typed htab p hp s
    refine ⟨?_, ht⟩
    obtain ⟨bt, hbt⟩ : ∃ bt, c.basetype (plainOf c (starRoot s)) = some bt := by
      have hs := starRoot_cases s
      generalize starRoot s = a at hs
      rcases hs with rfl | ⟨b, rfl⟩
      · exact plainOf_basetype c htab a hne p hp hacc
      · have ha : a ≠ [] := by
          rintro rfl
          exact hr ⟨b, by simp⟩
        obtain ⟨p', hp', hacc'⟩ := accepts_root c hwf a ('*' :: b) p hp (by simpa using hacc)
        exact plainOf_basetype c htab a ha p' hp' hacc'
    have hin : typedAs p.1 p.2 s ∈
        (lenM c s).map (fun q => forcedSid c.env c.cfg.sid.templates q.1 s) :=
      List.mem_map.2 ⟨_, lenM_of_accepts c htab s hne p hp hacc,
        forcedSid_of_accepts htab p hp s hne hacc⟩
    rw [hbt]
    simp only
    split
    · next hemp =>
      rw [List.isEmpty_iff.1 hemp] at hin
      cases hin
    · refine (mem_sortSids_typing c hwf _ (fun y hy => ?_) _ ht).2 hin
      obtain ⟨⟨l, d⟩, _, rfl⟩ := List.mem_map.1 hy
      exact ⟨s, forcedSid_typing c l s hq hc⟩

/-! ### the stage -/

theorem count_ge_two_error (c : Ctx) (a : Str) (h2 : 2 ≤ Str.count a slashStars) :
    c.expand a false = .error .spil := by
  have h2 : 2 ≤ Str.count a ['/', '*', '*'] := h2
  have h0 : (Str.count a ['/', '*', '*'] == 0) = false := by
    simp only [beq_eq_false_iff_ne]; omega
  have h1 : Str.count a ['/', '*', '*'] > 1 := by omega
  unfold Ctx.expand
  simp [h0, h1]

/-! ### `DenotesPlain` and `MalformedPlain` by the number of "/**" -/

theorem denotesPlain_zero (c : Ctx) (a : Str) (y : Sid) (h0 : Str.count a slashStars = 0) :
    DenotesPlain c a y ↔
      ∃ p ∈ c.cfg.sid.templates, accepts c.env p.2 a = true ∧ a ≠ [] ∧ y = typedAs p.1 p.2 a := by
  unfold DenotesPlain
  constructor
  · rintro (⟨_, hne, p, hp, hacc, e⟩ | ⟨h1, _⟩)
    · exact ⟨p, hp, hacc, hne, e⟩
    · omega
  · exact fun ⟨p, hp, hacc, hne, e⟩ => Or.inl ⟨h0, hne, p, hp, hacc, e⟩

theorem denotesPlain_one (c : Ctx) (a : Str) (y : Sid) (h1 : Str.count a slashStars = 1) :
    DenotesPlain c a y ↔ ∃ lk k, rootLeafKey c (rootOf a) = some lk ∧
      ∃ p ∈ c.cfg.sid.templates, (keysOf p.2).getLast? = some lk ∧
        accepts c.env p.2 (fill a k) = true ∧ y = typedAs p.1 p.2 (fill a k) := by
  unfold DenotesPlain
  constructor
  · rintro (⟨h0, _⟩ | ⟨_, h⟩)
    · omega
    · exact h
  · exact fun h => Or.inr ⟨h1, h⟩

theorem malformedPlain_zero (c : Ctx) (a : Str) (h0 : Str.count a slashStars = 0) :
    ¬ MalformedPlain c a := by
  rintro (h | ⟨h, _⟩) <;> omega

theorem malformedPlain_one (c : Ctx) (a : Str) (h1 : Str.count a slashStars = 1) :
    MalformedPlain c a ↔ rootLeafKey c (rootOf a) = none := by
  unfold MalformedPlain
  constructor
  · rintro (h | ⟨_, h⟩)
    · omega
    · exact h
  · exact fun h => Or.inr ⟨h1, h⟩

/-- `expand` on one plain string: SpilException exactly on the malformed ones; otherwise a result
    whose typed members are exactly what the string denotes, and whose other members are leftovers -/
theorem expand_spec (c : Ctx) (hwf : sidHierOk c.env c.cfg.sid.templates = true) (a : Str)
    (hq : '?' ∉ a) (hc : ':' ∉ a) (hr : ¬ ['/', '*'] <+: a) :
    (MalformedPlain c a → c.expand a false = .error .spil) ∧
    (¬ MalformedPlain c a → ∃ r, c.expand a false = .ok r ∧
       (∀ x, (x ∈ r ∧ x.typed = true) ↔ DenotesPlain c a x) ∧
       (∀ x ∈ r, x.typed = true ∨ Leftover x)) := by
  have hcases : Str.count a slashStars = 0 ∨ Str.count a slashStars = 1 ∨ 2 ≤ Str.count a slashStars := by
    omega
  rcases hcases with h0 | h1 | h2
  · obtain ⟨r, he, hleft, hiff⟩ := simpleTyping_spec c hwf a hq hc hr
    rw [← expand_of_count_zero c a h0 false] at he
    exact ⟨fun hm => absurd hm (malformedPlain_zero c a h0),
      fun _ => ⟨r, he, fun x => (hiff x).trans (denotesPlain_zero c a x h0).symm, hleft⟩⟩
  · rw [malformedPlain_one c a h1]
    rcases expand_stars c hwf a hq hc h1 with ⟨hrk, he⟩ | ⟨⟨lk, hrk⟩, r, he, hleft, hiff⟩
    · exact ⟨fun _ => he, fun hnm => absurd hrk hnm⟩
    · exact ⟨fun h => (by rw [hrk] at h; cases h),
        fun _ => ⟨r, he, fun x => (hiff x).trans (denotesPlain_one c a x h1).symm, hleft⟩⟩
  · exact ⟨fun _ => count_ge_two_error c a h2, fun hnm => absurd (Or.inl h2) hnm⟩

end DenL
