/-
  Spil.Lemmas.GlobSound — what CAN be said about soundness of the path search: a path returned by
  `glob.glob(pattern)` is globbed by the pattern as a whole string; and a key that occupies a whole
  '/' component of the path template ("pinned") has its value globbed by the search value.
-/
import Spil.Lemmas.GlobPath
import Spil.Lemmas.GlobSid

namespace GlobL

open Spec

/-! ### from `glob.glob` back to the glob relation -/

theorem compMatch_glob (a b : Str) (h : World.compMatch a b = true) : Glob a b := by
  rw [compMatch_eq, Bool.and_eq_true] at h
  exact Find.glob_of_globB _ a b h.1

theorem glob_of_mem_glob (w : World) (pat p : Str) (h : p ∈ w.glob pat) :
    p ∈ w.nodes.map (·.1) ∧ Glob pat p := by
  obtain ⟨h1, h2⟩ := (mem_glob w pat p).1 h
  exact ⟨h1, (glob_iff_comps pat p).2 (All2.mono h2 (fun a _ b _ hab => compMatch_glob a b hab))⟩

/-! ### pinned keys -/

/-- the key `k` occupies a whole '/' component of the template: its placeholder follows literal
    text ending in '/' and is followed by nothing or by literal text starting with '/' -/
def pinned (k : Str) : Template → Bool
  | [] => false
  | tok :: rest =>
    (match tok, rest with
     | .lit l, .ph k' _ :: rest' =>
       l.getLast? == some '/' && k' == k &&
         (match rest' with
          | [] => true
          | .lit ('/' :: _) :: _ => true
          | _ => false)
     | _, _ => false) || pinned k rest

theorem pinned_unpack (k : Str) (t : Template) (h : pinned k t = true) :
    ∃ A l ex B, t = A ++ (.lit (l ++ ['/']) :: .ph k ex :: B) ∧
      (B = [] ∨ ∃ l' B', B = .lit ('/' :: l') :: B') := by
  induction t with
  | nil => simp [pinned] at h
  | cons tok rest ih =>
    simp only [pinned, Bool.or_eq_true] at h
    rcases h with h | h
    · split at h
      · next l k' ex rest' =>
        simp only [Bool.and_eq_true, beq_iff_eq] at h
        obtain ⟨⟨hl, hk⟩, hr⟩ := h
        subst hk
        have hl' : ∃ l0, l = l0 ++ ['/'] := List.getLast?_eq_some_iff.1 (by simpa using hl)
        obtain ⟨l0, rfl⟩ := hl'
        refine ⟨[], l0, ex, rest', rfl, ?_⟩
        split at hr
        · exact Or.inl rfl
        · next l' B' => exact Or.inr ⟨l', B', rfl⟩
        · cases hr
      · cases h
    · obtain ⟨A, l, ex, B, hA, hB⟩ := ih h
      exact ⟨tok :: A, l, ex, B, by rw [hA]; rfl, hB⟩

def litSlashes : Template → Nat
  | [] => 0
  | .lit s :: rest => Str.countChar '/' s + litSlashes rest
  | .ph _ _ :: rest => litSlashes rest

theorem format_slashes (A : Template) (d : Dict) (hd : ∀ kv ∈ d, '/' ∉ kv.2) (r : Str)
    (h : Template.format A d = some r) : Str.countChar '/' r = litSlashes A := by
  induction A generalizing r with
  | nil => cases h; rfl
  | cons tok A ih =>
    cases tok with
    | lit s =>
      obtain ⟨r', hr', rfl⟩ := (SidL.format_lit_cons ..).1 h
      rw [Str.countChar_append, ih r' hr']; rfl
    | ph k ex =>
      obtain ⟨v, r', hv, hr', rfl⟩ := (SidL.format_ph_cons ..).1 h
      rw [Str.countChar_append, ih r' hr',
        Str.countChar_eq_zero '/' v (hd (k, v) (Lst.lookup_mem d k v hv))]
      simp [litSlashes]

/-- what follows a pinned placeholder is empty or starts with '/' -/
theorem format_after_pinned (B : Template) (hB : B = [] ∨ ∃ l' B', B = .lit ('/' :: l') :: B')
    (d : Dict) (b : Str) (hb : Template.format B d = some b) : b = [] ∨ ∃ b', b = '/' :: b' := by
  rcases hB with rfl | ⟨l', B', rfl⟩
  · cases hb; exact Or.inl rfl
  · obtain ⟨b0, _, rfl⟩ := (SidL.format_lit_cons ..).1 hb
    exact Or.inr ⟨l' ++ b0, rfl⟩

/-- on the raw rendered texts (before `PurePosixPath`): the values are '/'-free, so both renderings
    have the same number of '/' before the placeholder (`format_slashes`) and the two values of `k`
    are the same-numbered component of `Glob.comps` -/
theorem pinned_value (t : Template) (k : Str) (ds dx : Dict) (rs rx : Str)
    (hpin : pinned k t = true)
    (hs : Template.format t ds = some rs) (hx : Template.format t dx = some rx)
    (hfs : ∀ kv ∈ ds, '/' ∉ kv.2) (hfx : ∀ kv ∈ dx, '/' ∉ kv.2) (hg : Glob rs rx) :
    ∃ vs vx, ds.get k = some vs ∧ dx.get k = some vx ∧ Glob vs vx := by
  obtain ⟨A, l, ex, B, rfl, hB⟩ := pinned_unpack k t hpin
  obtain ⟨as, _, hAs, h1, rfl⟩ := SidL.format_append A _ ds rs hs
  obtain ⟨_, h2, rfl⟩ := (SidL.format_lit_cons ..).1 h1
  obtain ⟨vs, bs, hvs, hbs, rfl⟩ := (SidL.format_ph_cons ..).1 h2
  obtain ⟨ax, _, hAx, h1, rfl⟩ := SidL.format_append A _ dx rx hx
  obtain ⟨_, h2, rfl⟩ := (SidL.format_lit_cons ..).1 h1
  obtain ⟨vx, bx, hvx, hbx, rfl⟩ := (SidL.format_ph_cons ..).1 h2
  refine ⟨vs, vx, hvs, hvx, ?_⟩
  have c1 := Str.splitOn_comp_after '/' (as ++ l) vs bs (hfs (k, vs) (Lst.lookup_mem ds k vs hvs))
    (format_after_pinned B hB ds bs hbs)
  have c2 := Str.splitOn_comp_after '/' (ax ++ l) vx bx (hfx (k, vx) (Lst.lookup_mem dx k vx hvx))
    (format_after_pinned B hB dx bx hbx)
  rw [Str.countChar_append, format_slashes A ds hfs as hAs, ← format_slashes A dx hfx ax hAx,
    ← Str.countChar_append] at c1
  have hcomps := Glob.comps hg
  have e1 : as ++ ((l ++ ['/']) ++ (vs ++ bs)) = ((as ++ l) ++ ['/']) ++ (vs ++ bs) := by simp
  have e2 : ax ++ ((l ++ ['/']) ++ (vx ++ bx)) = ((ax ++ l) ++ ['/']) ++ (vx ++ bx) := by simp
  rw [e1, e2] at hcomps
  exact All2.get hcomps _ vs vx c1 c2

end GlobL
