/-
  Spil.Lemmas.ExclTpl — soundness of `Spec.tplExcl`: the regular expression of `A` has no match on
  a path that `B` rendered from admissible concrete values.
-/
import Spil.Lemmas.ExclWalk
import Spil.Lemmas.DetParse

namespace Excl

open Spec Det

/-! ### reading from right to left -/

theorem aword_rev (e : Env) (a : Atom) (u : Str) (h : aword e a u) : aword e a.rev u.reverse := by
  cases a with
  | cls k =>
    obtain ⟨c, rfl, hc⟩ := h
    exact ⟨c, rfl, hc⟩
  | closed key alts =>
    obtain ⟨w, hw, hm⟩ := h
    exact ⟨w.reverse, List.mem_map.mpr ⟨w, hw, rfl⟩, matchesSeq_reverse e w u hm⟩
  | free key =>
    simp only [Atom.rev, aword, List.mem_reverse]
    exact h

theorem revAtoms_cons (a : Atom) (as : List Atom) : revAtoms (a :: as) = revAtoms as ++ [a.rev] := by
  simp [revAtoms]

theorem parse_rev (e : Env) : ∀ (as : List Atom) (w : Str) (vs : List Str), Parse e as w vs →
    ∃ vs', Parse e (revAtoms as) w.reverse vs'
  | [], w, vs, h => by
    obtain ⟨rfl, _⟩ := (parse_nil_iff e w vs).mp h
    exact ⟨[], Parse.nil⟩
  | a :: as, w, vs, h => by
    obtain ⟨u, w1, v1, rfl, rfl, a1, p1⟩ := (parse_cons_iff e a as w vs).mp h
    obtain ⟨vs', p'⟩ := parse_rev e as w1 v1 p1
    rw [revAtoms_cons, List.reverse_append]
    exact ⟨_, (parse_append e _ _ _ _).mpr ⟨_, _, vs', _, rfl, rfl, p',
      (parse_single_iff e a.rev u.reverse _).mpr ⟨aword_rev e a u a1, rfl⟩⟩⟩

theorem wordsOk_rev (e : Env) (a : Atom) (h : wordsOk e a = true) : wordsOk e a.rev = true := by
  cases a with
  | cls k => exact h
  | free k => rfl
  | closed key alts =>
    simp only [wordsOk, Atom.rev, List.all_eq_true, Bool.and_eq_true, Bool.not_eq_true',
      List.isEmpty_eq_false_iff, List.mem_map] at h ⊢
    rintro w ⟨w0, hw0, rfl⟩
    refine ⟨by simpa using (h w0 hw0).1, ?_⟩
    intro k hk
    exact (h w0 hw0).2 k (by simpa using hk)

theorem all_revAtoms (q : Atom → Bool) (hq : ∀ a, q a = true → q a.rev = true) (as : List Atom)
    (h : as.all q = true) : (revAtoms as).all q = true := by
  rw [revAtoms, List.all_reverse]
  exact Lst.all_map_of hq h

theorem isSlash_rev (a : Atom) : a.rev.isSlash = a.isSlash := by cases a <;> rfl

theorem isFree_rev (a : Atom) : a.rev.isFree = a.isFree := by cases a <;> rfl

theorem countP_revAtoms (as : List Atom) :
    (revAtoms as).countP Atom.isSlash = as.countP Atom.isSlash := by
  simp only [revAtoms, List.countP_reverse, List.countP_map]
  congr 1
  funext a
  exact isSlash_rev a

/-! ### concrete words -/

theorem matches_concAlts (e : Env) (syms : List Str) (alts : List (List Cls)) (v : Str)
    (hv : v ∉ syms) (h : ∃ a ∈ alts, matchesSeq e a v) :
    ∃ a ∈ concAlts syms alts, matchesSeq e a v := by
  obtain ⟨a, ha, hm⟩ := h
  refine ⟨a, ?_, hm⟩
  simp only [concAlts, List.mem_filter, Bool.not_eq_true']
  refine ⟨ha, ?_⟩
  cases hs : isSymWord syms a with
  | false => rfl
  | true =>
    exfalso
    simp only [isSymWord, List.any_eq_true, beq_iff_eq] at hs
    obtain ⟨s, hs, rfl⟩ := hs
    exact hv (matchesSeq_lits e s v hm ▸ hs)

theorem wordsOk_conc (e : Env) (syms : List Str) (a : Atom) (h : wordsOk e a = true) :
    wordsOk e (a.conc syms) = true := by
  cases a with
  | cls k => exact h
  | free k => rfl
  | closed key alts =>
    simp only [wordsOk, Atom.conc, concAlts, List.all_eq_true, List.mem_filter] at h ⊢
    intro w hw
    exact h w hw.1

theorem isSlash_conc (syms : List Str) (a : Atom) : (a.conc syms).isSlash = a.isSlash := by
  cases a <;> rfl

theorem countP_conc (syms : List Str) (as : List Atom) :
    (as.map (Atom.conc syms)).countP Atom.isSlash = as.countP Atom.isSlash := by
  rw [List.countP_map]
  congr 1
  funext a
  exact isSlash_conc syms a

theorem aval_conc (syms : List Str) (a : Atom) (u : Str) : aval (a.conc syms) u = aval a u := by
  cases a <;> rfl

theorem renders_conc (e : Env) (syms : List Str) (t : Template) (data : Dict)
    (hr : Renders e id t data) (hc : concreteOk syms t data = true) :
    Renders e (Atom.conc syms) t data := by
  intro k ex a hm ha
  obtain ⟨v, hg, hns, hword⟩ := hr k ex a hm ha
  refine ⟨v, hg, hns, ?_⟩
  have hc1 := List.all_eq_true.mp hc _ hm
  simp only [hg, Option.getD_some] at hc1
  rcases phAtom_cases ha with ⟨_, rfl⟩ | ⟨hex, alts, _, rfl⟩
  · exact hword
  · exact matches_concAlts e syms alts v (by simpa [hex] using hc1) hword

/-! ### soundness -/

/-- when the last atom of `B` is not free, `B`'s string does not end in a newline, so the two
    strings are equal and can be read backwards -/
theorem Meets.rev (e : Env) (A B : List Atom) (b : Atom) (rest : List Atom)
    (hrev : revAtoms B = b :: rest) (hf : b.isFree = false) (hB : B.all (wordsOk e) = true)
    (hm : Meets e A B) : Meets e (revAtoms A) (revAtoms B) := by
  obtain ⟨wA, w, r, vA, vB, pA, pB, hw, hr, hc⟩ := hm
  obtain ⟨vB', pB'⟩ := parse_rev e B w vB pB
  obtain ⟨vA', pA'⟩ := parse_rev e A wA vA pA
  have hr0 : r = [] := by
    refine hr.resolve_right fun hr => ?_
    have hB' := all_revAtoms (wordsOk e) (wordsOk_rev e) B hB
    rw [hrev] at pB' hB'
    simp only [List.all_cons, Bool.and_eq_true] at hB'
    obtain ⟨c, cs, hu, hcn⟩ := parse_head_nonfree e b rest hf hB'.1 _ vB' pB'
    rw [hw, hr, List.reverse_append] at hu
    exact hcn (List.head_eq_of_cons_eq hu).symm
  subst hr0
  simp only [List.append_nil] at hw
  subst hw
  exact ⟨w.reverse, w.reverse, [], vA', vB', pA', pB', by simp, Or.inl rfl,
    by rw [List.count_reverse, countP_revAtoms, hc]⟩

theorem atomsExcl_sound (e : Env) (A B : List Atom) (h : atomsExcl e A B = true)
    (hA : A.all (wordsOk e) = true) (hB : B.all (wordsOk e) = true) : ¬ Meets e A B := by
  intro hm
  simp only [atomsExcl, Bool.or_eq_true] at h
  rcases h with (h | h) | h
  · exact Meets.not_slashRule e A B h hA hm
  · exact lwalk_sound e _ A B h hA hB hm
  · split at h
    · next b rest hrev =>
      simp only [Bool.and_eq_true, Bool.not_eq_true'] at h
      exact lwalk_sound e _ _ _ h.2 (all_revAtoms (wordsOk e) (wordsOk_rev e) A hA)
        (all_revAtoms (wordsOk e) (wordsOk_rev e) B hB) (hm.rev e A B b rest hrev h.1 hB)
    · simp at h

theorem all_wordsOk_of_atomOk (e : Env) (fl : List Atom) (h : fl.all (atomOk e) = true) :
    fl.all (wordsOk e) = true := by
  simp only [List.all_eq_true] at h ⊢
  exact fun a ha => wordsOk_of_atomOk e a (h a ha)

theorem search_none (e : Env) (syms : List Str) (A B : Template) (data : Dict) (w : Str)
    (hA : pathTplOk e A = true) (hB : pathTplOk e B = true) (hx : tplExcl e syms A B = true)
    (hv : valuesOk e B data = true) (hc : concreteOk syms B data = true)
    (hw : Template.format B data = some w) : (Template.compile A).search e w = none := by
  obtain ⟨fa, hfa, _, hatomA, _⟩ := (pathTplOk_iff e A).mp hA
  obtain ⟨fb, hfb, _, hatomB, _⟩ := (pathTplOk_iff e B).mp hB
  simp only [tplExcl, hfa, hfb] at hx
  cases hs : (Template.compile A).search e w with
  | none => rfl
  | some caps =>
    exfalso
    simp only [Re.search, Option.map_eq_some_iff] at hs
    obtain ⟨x, hx', _⟩ := hs
    obtain ⟨hmem, hd⟩ := find_dollar_some _ x hx'
    obtain ⟨happ, vs, pA, _⟩ := (mem_run_items e A [] fa hfa w x.1 x.2.1 x.2.2).mp hmem
    obtain ⟨pB, hcount⟩ := parse_map_of_format e (Atom.conc syms) (fun _ => rfl) (aval_conc syms)
      data B fb w hfb (renders_conc e syms B data (renders_of_valuesOk e B fb data hfb hatomB hv) hc) hw
    exact atomsExcl_sound e fa _ hx (all_wordsOk_of_atomOk e fa hatomA)
      (Lst.all_map_of (wordsOk_conc e syms) (all_wordsOk_of_atomOk e fb hatomB))
      ⟨x.1, w, x.2.1, vs, _, pA, pB, happ.symm, hd, by rw [countP_conc, hcount]⟩

/-- in the form `Resolver.resolve_first` needs: the excluded template is skipped without raising,
    whatever the duplicate-placeholder flag -/
theorem resolveTpl_none (e : Env) (syms : List Str) (cd : Bool) (A B : Template) (data : Dict)
    (w : Str) (hA : pathTplOk e A = true) (hB : pathTplOk e B = true)
    (hx : tplExcl e syms A B = true) (hv : valuesOk e B data = true)
    (hc : concreteOk syms B data = true) (hw : Template.format B data = some w) :
    Resolver.resolveTpl e cd A w = .ok none := by
  unfold Resolver.resolveTpl
  rw [search_none e syms A B data w hA hB hx hv hc hw]

end Excl
