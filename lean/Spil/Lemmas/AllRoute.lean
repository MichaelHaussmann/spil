/-
  Spil.Lemmas.AllRoute — the routing half of C11 (`FindInAll`): `DCtx.groupByFinder` as the closed
  form `groupsOf`, the first unfolding step of `finderDoFind`, `FindInAll.find` in terms of these
  (`findInAll_eq`, `findInAll_single`), `do_find` of star searches.  At the head, the `match`
  spellings of `Ctx.flatMapE_cons` / `_append`.
-/
import Spil.Model.FS
import Spil.Lemmas.Lst
import Spil.Lemmas.Dict
import Spil.Lemmas.MapE

namespace AllL

/-! ### `Ctx.flatMapE` on `::` and `++`, in `match` form -/

theorem flatMapE_cons {α β} (f : α → Except Err (List β)) (x : α) (xs : List α) :
    Ctx.flatMapE f (x :: xs) =
      match f x with
      | .error e => .error e
      | .ok ys =>
        match Ctx.flatMapE f xs with
        | .error e => .error e
        | .ok more => .ok (ys ++ more) := by
  rw [Ctx.flatMapE_cons]
  cases f x with
  | error e => rfl
  | ok ys => cases Ctx.flatMapE f xs <;> rfl

theorem flatMapE_append {α β} (f : α → Except Err (List β)) (xs ys : List α) :
    Ctx.flatMapE f (xs ++ ys) =
      match Ctx.flatMapE f xs with
      | .error e => .error e
      | .ok a =>
        match Ctx.flatMapE f ys with
        | .error e => .error e
        | .ok b => .ok (a ++ b) := by
  rw [Ctx.flatMapE_append]
  cases Ctx.flatMapE f xs with
  | error e => rfl
  | ok a => cases Ctx.flatMapE f ys <;> rfl

/-! ### `groupByFinder` -/

/-- the groups `FindInAll` forms: one per finder index, in the order in which the indices are
    first met; each group lists the searches routed to its index, in their original order -/
def groupsOf (d : DCtx) (searches : List Sid) : List (Nat × List Sid) :=
  (Lst.dedupBy (· == ·) (searches.filterMap d.finderFor)).map
    (fun i => (i, searches.filter (fun s => d.finderFor s == some i)))

/-- what `groupByFinder` does with one search -/
def groupStep (d : DCtx) (acc : List (Nat × List Sid)) (s : Sid) : List (Nat × List Sid) :=
  match d.finderFor s with
  | none => acc
  | some i =>
    if acc.any (·.1 == i) then acc.map (fun (j, ss) => if j == i then (j, ss ++ [s]) else (j, ss))
    else acc ++ [(i, [s])]

theorem groupByFinder_foldl (d : DCtx) (l : List Sid) (acc : List (Nat × List Sid)) :
    d.groupByFinder l acc = l.foldl (groupStep d) acc := by
  induction l generalizing acc with
  | nil => rfl
  | cons s rest ih =>
    rw [List.foldl_cons, ← ih, DCtx.groupByFinder]
    unfold groupStep
    cases d.finderFor s with
    | none => rfl
    | some i => dsimp only; split <;> rfl

theorem groupsOf_keys_eq (d : DCtx) (l : List Sid) :
    (groupsOf d l).map (·.1) = Lst.dedupBy (· == ·) (l.filterMap d.finderFor) := by
  unfold groupsOf
  rw [List.map_map]
  exact List.map_id _

theorem groupsOf_keys (d : DCtx) (l : List Sid) (i : Nat) :
    (groupsOf d l).any (·.1 == i) = (l.filterMap d.finderFor).contains i := by
  rw [Bool.eq_iff_iff, Lst.any_fst_beq, groupsOf_keys_eq, Lst.mem_dedupBy, List.contains_iff_mem]

/-- the group of index `j` after one more search, routed to `i` -/
theorem filter_snoc_route (d : DCtx) (l : List Sid) (s : Sid) (i j : Nat)
    (h : d.finderFor s = some i) :
    (l ++ [s]).filter (fun s => d.finderFor s == some j) =
      if j == i then l.filter (fun s => d.finderFor s == some j) ++ [s]
      else l.filter (fun s => d.finderFor s == some j) := by
  by_cases hj : j = i
  · subst hj; simp [List.filter_append, h]
  · have : i ≠ j := fun e => hj e.symm
    simp [List.filter_append, h, hj, this]

theorem groupsOf_snoc (d : DCtx) (l : List Sid) (s : Sid) :
    groupsOf d (l ++ [s]) = groupStep d (groupsOf d l) s := by
  unfold groupStep
  cases h : d.finderFor s with
  | none => simp [groupsOf, h]
  | some i =>
    dsimp only
    rw [groupsOf_keys]
    unfold groupsOf
    rw [List.filterMap_append, List.filterMap_cons, h, List.filterMap_nil, Lst.dedupBy_snoc]
    simp only [filter_snoc_route d l s i _ h]
    -- by whether the index `i` of `s` was met before: its group gains `s`, or `[s]` is a new group
    by_cases hin : (l.filterMap d.finderFor).contains i = true
    · simp only [hin, if_true, List.map_map]
      apply List.map_congr_left
      intro j _
      simp only [Function.comp]
      split <;> rfl
    · have hnil : l.filter (fun s => d.finderFor s == some i) = [] := by
        rw [List.filter_eq_nil_iff]
        intro s' hs' he
        exact hin (List.contains_iff_mem.2 (List.mem_filterMap.2 ⟨s', hs', by simpa using he⟩))
      simp only [hin, Bool.false_eq_true, if_false, List.map_append, List.map_cons, List.map_nil,
        beq_self_eq_true, if_true, hnil, List.nil_append]
      congr 1
      apply List.map_congr_left
      intro j hj
      have : j ≠ i := fun e => hin (List.contains_iff_mem.2 ((Lst.mem_dedupBy _ _).1 (e ▸ hj)))
      simp [this]

theorem groupByFinder_eq (d : DCtx) (searches : List Sid) :
    d.groupByFinder searches [] = groupsOf d searches := by
  rw [groupByFinder_foldl]
  have : ∀ l pre, l.foldl (groupStep d) (groupsOf d pre) = groupsOf d (pre ++ l) := by
    intro l
    induction l with
    | nil => intro pre; simp
    | cons s l ih => intro pre; rw [List.foldl_cons, ← groupsOf_snoc, ih, List.append_assoc]; rfl
  exact this searches []

theorem groupsOf_keys_nodup (d : DCtx) (searches : List Sid) :
    ((groupsOf d searches).map (·.1)).Nodup := by
  rw [groupsOf_keys_eq]; exact Lst.dedupBy_nodup _

theorem mem_groupsOf (d : DCtx) (searches : List Sid) (g : Nat × List Sid) :
    g ∈ groupsOf d searches ↔
      (∃ s ∈ searches, d.finderFor s = some g.1) ∧
      g.2 = searches.filter (fun s => d.finderFor s == some g.1) := by
  unfold groupsOf
  rw [List.mem_map]
  constructor
  · rintro ⟨i, hi, rfl⟩
    rw [Lst.mem_dedupBy, List.mem_filterMap] at hi
    exact ⟨hi, rfl⟩
  · rintro ⟨hs, hg⟩
    refine ⟨g.1, ?_, ?_⟩
    · rw [Lst.mem_dedupBy, List.mem_filterMap]
      exact hs
    · rw [← hg]

theorem groupsOf_ne_nil (d : DCtx) (searches : List Sid) (g : Nat × List Sid)
    (hg : g ∈ groupsOf d searches) : g.2 ≠ [] := by
  obtain ⟨⟨s, hs, hf⟩, h2⟩ := (mem_groupsOf d searches g).1 hg
  intro h0
  have : s ∈ g.2 := by
    rw [h2, List.mem_filter]
    exact ⟨hs, by simp [hf]⟩
  rw [h0] at this
  cases this

theorem groupsOf_cover (d : DCtx) (searches : List Sid) (s : Sid) (i : Nat) (hs : s ∈ searches)
    (hf : d.finderFor s = some i) :
    (i, searches.filter (fun s => d.finderFor s == some i)) ∈ groupsOf d searches ∧
    s ∈ searches.filter (fun s => d.finderFor s == some i) := by
  refine ⟨(mem_groupsOf d searches _).2 ⟨⟨s, hs, hf⟩, rfl⟩, ?_⟩
  rw [List.mem_filter]
  exact ⟨hs, by simp [hf]⟩

theorem groupsOf_unrouted (d : DCtx) (searches : List Sid) (s : Sid) (hf : d.finderFor s = none)
    (g : Nat × List Sid) (hg : g ∈ groupsOf d searches) : s ∉ g.2 := by
  obtain ⟨_, h2⟩ := (mem_groupsOf d searches g).1 hg
  rw [h2, List.mem_filter]
  simp [hf]

theorem groupsOf_single (d : DCtx) (searches : List Sid) (i : Nat)
    (h : ∀ s ∈ searches, d.finderFor s = some i) :
    groupsOf d searches = if searches.isEmpty then [] else [(i, searches)] := by
  unfold groupsOf
  cases searches with
  | nil => rfl
  | cons s rest =>
    rw [Lst.filterMap_eq_replicate _ i _ h, List.length_cons, Lst.dedupBy_replicate]
    simp only [List.map_cons, List.map_nil, List.isEmpty_cons, Bool.false_eq_true, if_false]
    rw [List.filter_eq_self.2 (fun a ha => by simp [h a ha])]

/-! ### the first step of `finderDoFind`; `FindInAll.find` over the groups -/

theorem fuel_succ (d : DCtx) : d.fuel = (2 * d.data.finders.length + 1) + 1 := rfl

theorem finderDoFind_paths (d : DCtx) (w : World) (fuel i : Nat) (config : Option Str)
    (hi : d.data.finders[i]? = some (.paths config)) (ss : List Sid) :
    d.finderDoFind w (fuel + 1) i ss = d.pathsDoFind w config ss := by
  rw [DCtx.finderDoFind.eq_2, hi]

theorem finderDoFind_constants (d : DCtx) (w : World) (fuel i : Nat) (key : Str) (values : List Str)
    (parent : Option Nat) (hi : d.data.finders[i]? = some (.constants key values parent))
    (ss : List Sid) :
    d.finderDoFind w (fuel + 1) i ss =
      d.doFindWith (fun ss => d.constStar w fuel key values parent ss) ss := by
  rw [DCtx.finderDoFind.eq_2, hi]

theorem finderDoFind_none (d : DCtx) (w : World) (fuel i : Nat) (hi : d.data.finders[i]? = none)
    (ss : List Sid) : d.finderDoFind w fuel i ss = .error .other := by
  cases fuel with
  | zero => rw [DCtx.finderDoFind.eq_1]
  | succ f => rw [DCtx.finderDoFind.eq_2, hi]

theorem findInAll_eq (d : DCtx) (w : World) (search : Str) (searches : List Sid)
    (hu : d.ctx.unfoldSearch search false false = .ok searches) :
    d.findInAll w search =
      (Ctx.flatMapE (fun (g : Nat × List Sid) => d.finderDoFind w d.fuel g.1 g.2)
        (groupsOf d searches)).map (Lst.dedupBy (· == ·)) := by
  unfold DCtx.findInAll
  rw [hu]
  simp only [groupByFinder_eq]
  cases Ctx.flatMapE (fun (g : Nat × List Sid) => d.finderDoFind w d.fuel g.1 g.2)
    (groupsOf d searches) <;> rfl

theorem findInAll_single (d : DCtx) (w : World) (search : Str) (searches : List Sid) (i : Nat) (fd : FinderDef)
    (hu : d.ctx.unfoldSearch search false false = .ok searches)
    (hr : ∀ s ∈ searches, d.finderFor s = some i) (hi : d.data.finders[i]? = some fd) :
    d.findInAll w search = (d.finderDoFind w d.fuel i searches).map (Lst.dedupBy (· == ·)) := by
  rw [findInAll_eq d w search searches hu, groupsOf_single d searches i hr]
  cases searches with
  | nil => rw [fuel_succ, DCtx.finderDoFind.eq_2, hi]; cases fd <;> rfl
  | cons s rest => simp only [List.isEmpty_cons, Bool.false_eq_true, if_false, Ctx.flatMapE_singleton]

/-! ### `do_find` -/

theorem doFindWith_star (d : DCtx) (star : List Sid → Except Err (List Str)) (ss : List Sid)
    (hne : ss ≠ []) (hgt : ∀ x ∈ ss, Str.hasChar '>' x.string = false) :
    d.doFindWith star ss = star ss := by
  unfold DCtx.doFindWith
  have h1 : ss.isEmpty = false := by cases ss with | nil => exact absurd rfl hne | cons _ _ => rfl
  have h2 : ss.any (fun x => Str.hasChar '>' x.string) = false := by
    rw [List.any_eq_false]
    intro x hx
    simp [hgt x hx]
  simp only [h1, h2, Bool.false_eq_true, if_false]

theorem doFindWith_nil (d : DCtx) (star : List Sid → Except Err (List Str)) :
    d.doFindWith star [] = .ok [] := rfl

theorem pathsDoFind_star (d : DCtx) (w : World) (config : Option Str) (ss rs : List Sid)
    (hgt : ∀ x ∈ ss, Str.hasChar '>' x.string = false)
    (hrs : d.pathsStarSids w config ss = .ok rs) :
    d.pathsDoFind w config ss = .ok (rs.map (·.string)) := by
  cases ss with
  | nil => cases hrs; rfl
  | cons s rest =>
    unfold DCtx.pathsDoFind
    rw [doFindWith_star d _ _ (by simp) hgt]
    unfold DCtx.pathsStar
    rw [hrs]
    rfl

/-! ### `FindInPaths.find` -/

theorem findInPaths_of_searches (d : DCtx) (w : World) (config : Option Str) (search : Str)
    (searches : List Sid) (h : d.ctx.findSearches search = .ok searches) :
    d.findInPaths w config search = d.pathsDoFind w config searches := by
  simp only [DCtx.findInPaths, h]

end AllL
