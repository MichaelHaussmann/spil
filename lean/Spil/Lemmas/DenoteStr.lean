/-
  Spil.Lemmas.DenoteStr — helper lemmas for the end-to-end reading of search expressions (C07c):
  the string stages `extensions` and `or_op` of the unfolder pipeline enumerate exactly the plain
  strings `Spec.Picks` describes.
-/
import Spil.Spec.Denote
import Spil.Lemmas.Unfold

namespace DenL

open Spec Ctx

/-! ### vocabulary of the statements of C07c and C10b -/

/-- the last '/'-segment of an expression (the one `extensions` reads through the alias table) -/
def lastSeg (s : Str) : Str := ((Str.splitOn '/' s).getLast?).getD []

def lastIdx (s : Str) : Nat := (Str.splitOn '/' s).length - 1

theorem lastSeg_eq_segAt (s : Str) : lastSeg s = segAt s (lastIdx s) := by
  simp [lastSeg, segAt, lastIdx, List.getLast?_eq_getElem?]

theorem parts_decomp (s : Str) : Str.splitOn '/' s = (Str.splitOn '/' s).dropLast ++ [lastSeg s] :=
  (Lst.dropLast_append_getLast _ (Str.splitOn_ne_nil '/' s) []).symm

/-- the markers an expression must be free of (`ExprOk`): '?', ':' and the sentinel -/
def marks : List Str := [['?'], [':'], startMark]

/-! ### the alias table -/

structure ExtOk (v : Str) : Prop where
  noSlash : '/' ∉ v
  noComma : ',' ∉ v
  noQuery : '?' ∉ v
  noColon : ':' ∉ v
  stripped : Str.strip v = v
  noMark : ¬ startMark <:+: v

structure AliasEntryOk (k : Str) (vs : List Str) : Prop where
  name_ne : k ≠ []
  exts_ne : vs ≠ []
  ext : ∀ v ∈ vs, ExtOk v

theorem aliasOk_entry (sc : SidConf) (h : aliasOk sc = true) {k : Str} {vs : List Str}
    (hl : sc.extensionAlias.lookup k = some vs) : AliasEntryOk k vs := by
  have hm := Lst.lookup_mem _ _ _ hl
  unfold aliasOk at h
  rw [List.all_eq_true] at h
  have := h (k, vs) hm
  simp only [Bool.and_eq_true, Bool.not_eq_true', List.isEmpty_eq_false_iff, List.all_eq_true] at this
  refine ⟨this.1.1, this.1.2, ?_⟩
  intro v hv
  have hv := this.2 v hv
  simp only [extOk, Bool.and_eq_true, Bool.not_eq_true', beq_iff_eq, Str.hasChar_eq_false_iff,
    Str.isInfix_eq_false_iff] at hv
  exact ⟨hv.1.1.1.1.1, hv.1.1.1.1.2, hv.1.1.1.2, hv.1.1.2, hv.1.2, hv.2⟩

/-! ### `handle_extension` -/

theorem handleExtension_eq (c : Ctx) (last : Str) (hne : last ≠ []) :
    c.handleExtension last =
      Str.joinWith ',' (Lst.sortBy Str.lt (Lst.dedupBy (· == ·) (lastAlts c last))) := by
  have : last.isEmpty = false := by simp [hne]
  simp only [handleExtension, this, lastAlts, altsOf]
  rfl

theorem lastAlts_nil (c : Ctx) (hal : aliasOk c.cfg.sid = true) : lastAlts c [] = [[]] := by
  have hl : c.cfg.sid.extensionAlias.lookup [] = none := by
    cases h : c.cfg.sid.extensionAlias.lookup [] with
    | none => rfl
    | some vs => exact absurd rfl (aliasOk_entry _ hal h).name_ne
  simp [lastAlts, altsOf, Str.hasChar, hl]

theorem lastAlts_of_mem (c : Ctx) (last e : Str) (h : e ∈ lastAlts c last) :
    (e ∈ altsOf last ∧ c.cfg.sid.extensionAlias.lookup e = none) ∨
    ∃ k vs, k ∈ altsOf last ∧ c.cfg.sid.extensionAlias.lookup k = some vs ∧ e ∈ vs := by
  simp only [lastAlts, List.mem_flatMap] at h
  obtain ⟨a, ha, he⟩ := h
  cases hl : c.cfg.sid.extensionAlias.lookup a with
  | none =>
    rw [hl] at he
    simp only [Option.getD_none, List.mem_singleton] at he
    subst he
    exact Or.inl ⟨ha, hl⟩
  | some vs =>
    rw [hl] at he
    exact Or.inr ⟨a, vs, ha, hl, by simpa using he⟩

theorem lastAlts_ne_nil (c : Ctx) (hal : aliasOk c.cfg.sid = true) (last : Str) : lastAlts c last ≠ [] := by
  have hne : altsOf last ≠ [] := by
    unfold altsOf
    split
    · simpa using Str.splitOn_ne_nil ',' last
    · simp
  cases ha : altsOf last with
  | nil => exact absurd ha hne
  | cons a as =>
    simp only [lastAlts, ha, List.flatMap_cons, ne_eq, List.append_eq_nil_iff, not_and]
    intro h0
    cases hl : c.cfg.sid.extensionAlias.lookup a with
    | none => rw [hl] at h0; simp at h0
    | some vs =>
      rw [hl] at h0
      exact absurd (by simpa using h0) (aliasOk_entry _ hal hl).exts_ne

/-- a member of `lastAlts` is an alternative of the segment or an extension of the alias table -/
theorem lastAlts_ext (c : Ctx) (hal : aliasOk c.cfg.sid = true) {last e : Str}
    (h : e ∈ lastAlts c last) : e ∈ altsOf last ∨ ExtOk e :=
  (lastAlts_of_mem c last e h).imp (·.1) fun ⟨_, _, _, hl, hv⟩ => (aliasOk_entry _ hal hl).ext e hv

theorem lastAlts_noSlash (c : Ctx) (hal : aliasOk c.cfg.sid = true) (last : Str) (h : '/' ∉ last) :
    ∀ l ∈ lastAlts c last, '/' ∉ l := fun l hl =>
  (lastAlts_ext c hal hl).elim (altsOf_not_mem '/' last h l) (·.noSlash)

/-- the members of `lastAlts` are comma-free, and stripped unless the segment is comma-free and no
    alias: that one `handle_extension` leaves as it is, and the ',' join then has one piece (the two
    cases of `mem_altsOf_join`) -/
theorem lastAlts_noComma_stripped (c : Ctx) (hal : aliasOk c.cfg.sid = true) (last : Str) :
    (∀ e ∈ lastAlts c last, ',' ∉ e) ∧
    ((∀ e ∈ lastAlts c last, Str.strip e = e) ∨ lastAlts c last = [last]) := by
  refine ⟨fun e he => (lastAlts_ext c hal he).elim
    (fun ha => (altsOf_noComma_stripped last e ha).1) (·.noComma), ?_⟩
  by_cases hc : ',' ∈ last
  · exact Or.inl fun e he => (lastAlts_ext c hal he).elim
      (fun ha => (altsOf_noComma_stripped last e ha).2 hc) (·.stripped)
  · cases hl : c.cfg.sid.extensionAlias.lookup last with
    | none => exact Or.inr (by simp [lastAlts, altsOf_of_noComma last hc, hl])
    | some vs =>
      refine Or.inl fun e he => ?_
      have : e ∈ vs := by simpa [lastAlts, altsOf_of_noComma last hc, hl] using he
      exact ((aliasOk_entry _ hal hl).ext e this).stripped

theorem mem_altsOf_handle (c : Ctx) (hal : aliasOk c.cfg.sid = true) (last x : Str) :
    x ∈ altsOf (c.handleExtension last) ↔ x ∈ lastAlts c last := by
  by_cases hne : last = []
  · subst hne
    rw [show c.handleExtension [] = [] from rfl, lastAlts_nil c hal]
    simp [altsOf, Str.hasChar]
  · rw [handleExtension_eq c last hne]
    obtain ⟨hcm, hst⟩ := lastAlts_noComma_stripped c hal last
    have hmem : ∀ e, e ∈ Lst.sortBy Str.lt (Lst.dedupBy (· == ·) (lastAlts c last)) ↔ e ∈ lastAlts c last := by
      intro e; rw [Lst.mem_sortBy, Lst.mem_dedupBy]
    rw [mem_altsOf_join _ _ (fun e he => hcm e ((hmem e).1 he)), hmem]
    · intro h2 e he
      rcases hst with hst | hst
      · exact hst e ((hmem e).1 he)
      · rw [hst] at h2
        simp [Lst.dedupBy, Lst.sortBy, Lst.insertBy] at h2
    · intro h0
      have hR := lastAlts_ne_nil c hal last
      cases hR' : lastAlts c last with
      | nil => exact hR hR'
      | cons a as =>
        have : a ∈ Lst.sortBy Str.lt (Lst.dedupBy (· == ·) (lastAlts c last)) := by
          rw [hmem, hR']; simp
        rw [h0] at this
        simp at this

/-! ### where a marker in a derived string comes from

One family for a general marker `m` (a character is the marker `[ch]`): a marker occurring in a
string derived from the expression `s` occurs in `s` or in an extension of the alias table. -/

/-- what the lemmas need of a marker: non-empty, and not cut by the splits at '/' and ',' -/
structure Marker (m : Str) : Prop where
  ne : m ≠ []
  noSlash : '/' ∉ m
  noComma : ',' ∉ m

def AliasHas (c : Ctx) (m : Str) : Prop :=
  ∃ k vs v, c.cfg.sid.extensionAlias.lookup k = some vs ∧ v ∈ vs ∧ m <:+: v

theorem marks_marker : ∀ m ∈ marks, Marker m := by
  intro m hm
  simp only [marks, List.mem_cons, List.not_mem_nil, or_false] at hm
  rcases hm with rfl | rfl | rfl <;> exact ⟨by decide, by decide, by decide⟩

theorem marks_free_iff (s : Str) :
    (∀ m ∈ marks, ¬ m <:+: s) ↔ '?' ∉ s ∧ ':' ∉ s ∧ ¬ startMark <:+: s := by
  simp [marks, Str.singleton_infix]

theorem aliasOk_free (c : Ctx) (hal : aliasOk c.cfg.sid = true) : ∀ m ∈ marks, ¬ AliasHas c m := by
  rintro m hm ⟨k, vs, v, hl, hv, hi⟩
  have hv := (aliasOk_entry _ hal hl).ext v hv
  exact ((marks_free_iff v).2 ⟨hv.noQuery, hv.noColon, hv.noMark⟩) m hm hi

theorem lastAlts_infix (c : Ctx) {last e m : Str} (he : e ∈ lastAlts c last) (h : m <:+: e) :
    m <:+: last ∨ AliasHas c m := by
  rcases lastAlts_of_mem c last e he with ⟨ha, _⟩ | ⟨k, vs, _, hlk, hv⟩
  · exact Or.inl (h.trans (altsOf_infix last e ha))
  · exact Or.inr ⟨k, vs, e, hlk, hv, h⟩

theorem infix_handle (c : Ctx) (last m : Str) (hne : m ≠ []) (hm : ',' ∉ m)
    (h : m <:+: c.handleExtension last) : m <:+: last ∨ AliasHas c m := by
  by_cases hl : last = []
  · subst hl; exact Or.inl h
  · rw [handleExtension_eq c last hl, Str.infix_joinWith_iff ',' m hm hne] at h
    obtain ⟨e, he, hie⟩ := h
    rw [Lst.mem_sortBy, Lst.mem_dedupBy] at he
    exact lastAlts_infix c he hie

/-! ### choices -/

theorem choice_plain : ∀ (ps picks : List Str), (∀ p ∈ ps, ',' ∉ p) →
    (Choice ps picks ↔ picks = ps)
  | [], picks, _ => by
    constructor
    · intro h; cases h; rfl
    · rintro rfl; exact Choice.nil
  | p :: ps, picks, h => by
    have hp := altsOf_of_noComma p (h p (by simp))
    constructor
    · intro hc
      cases hc with
      | cons ha hc' =>
        rw [hp] at ha
        simp only [List.mem_singleton] at ha
        subst ha
        rw [(choice_plain ps _ (fun q hq => h q (by simp [hq]))).1 hc']
    · rintro rfl
      exact Choice.cons (by rw [hp]; simp) ((choice_plain ps ps (fun q hq => h q (by simp [hq]))).2 rfl)

theorem choice_append : ∀ (A B picks : List Str),
    Choice (A ++ B) picks ↔ ∃ pA pB, picks = pA ++ pB ∧ Choice A pA ∧ Choice B pB
  | [], B, picks => by
    constructor
    · intro h; exact ⟨[], picks, rfl, Choice.nil, h⟩
    · rintro ⟨pA, pB, rfl, hA, hB⟩
      cases hA; exact hB
  | p :: A, B, picks => by
    constructor
    · intro h
      cases h with
      | cons ha hc =>
        obtain ⟨pA, pB, rfl, hA, hB⟩ := (choice_append A B _).1 hc
        exact ⟨_ :: pA, pB, rfl, Choice.cons ha hA, hB⟩
    · rintro ⟨pA, pB, rfl, hA, hB⟩
      cases hA with
      | cons ha hA' => exact Choice.cons ha ((choice_append A B _).2 ⟨_, pB, rfl, hA', hB⟩)

theorem choice_append_singleton (h : Str) (init picks : List Str) :
    Choice (init ++ [h]) picks ↔ ∃ pi l, picks = pi ++ [l] ∧ Choice init pi ∧ l ∈ altsOf h := by
  rw [choice_append]
  constructor
  · rintro ⟨pi, _, rfl, hpi, hc⟩
    cases hc with
    | cons hl hnil => cases hnil; exact ⟨pi, _, rfl, hpi, hl⟩
  · rintro ⟨pi, l, rfl, hpi, hl⟩
    exact ⟨pi, [l], rfl, hpi, .cons hl .nil⟩

theorem choice_length : ∀ {ps picks : List Str}, Choice ps picks → picks.length = ps.length
  | _, _, .nil => rfl
  | _, _, .cons _ h => by simp [choice_length h]

theorem choice_ne_nil {ps picks : List Str} (h : Choice ps picks) (hne : ps ≠ []) : picks ≠ [] :=
  fun h0 => hne (List.length_eq_zero_iff.1 (by rw [← choice_length h, h0]; rfl))

theorem choice_mem : ∀ {ps picks : List Str}, Choice ps picks → ∀ a ∈ picks, ∃ p ∈ ps, a ∈ altsOf p
  | _, _, .nil, a, h => by simp at h
  | _, _, .cons (p := p) hp hc, a, h => by
    simp only [List.mem_cons] at h
    rcases h with rfl | h
    · exact ⟨p, by simp, hp⟩
    · obtain ⟨q, hq, ha⟩ := choice_mem hc a h
      exact ⟨q, by simp [hq], ha⟩

theorem choice_noSlash {ps picks : List Str} (h : Choice ps picks) (hps : ∀ p ∈ ps, '/' ∉ p) :
    ∀ a ∈ picks, '/' ∉ a := fun a ha =>
  let ⟨p, hp, hap⟩ := choice_mem h a ha
  altsOf_not_mem '/' p (hps p hp) a hap

theorem choice_set : ∀ (ps : List Str) (i : Nat), i < ps.length → ∀ picks,
    (Choice ps picks ↔ ∃ alt ∈ altsOf ((ps[i]?).getD []), Choice (ps.set i alt) picks)
  | [], _, h, _ => by simp at h
  | p :: rest, 0, _, picks => by
    simp only [List.getElem?_cons_zero, Option.getD_some, List.set_cons_zero]
    constructor
    · intro hc
      cases hc with
      | cons ha hc' =>
        rename_i a as
        exact ⟨a, ha, Choice.cons (by rw [altsOf_alt p a ha]; simp) hc'⟩
    · rintro ⟨alt, halt, hc⟩
      cases hc with
      | cons ha hc' =>
        rw [altsOf_alt p alt halt] at ha
        simp only [List.mem_singleton] at ha
        subst ha
        exact Choice.cons halt hc'
  | p :: rest, i + 1, h, picks => by
    simp only [List.getElem?_cons_succ, List.set_cons_succ]
    have ih := choice_set rest i (by simpa using h)
    constructor
    · intro hc
      cases hc with
      | cons ha hc' =>
        obtain ⟨alt, halt, hc''⟩ := (ih _).1 hc'
        exact ⟨alt, halt, Choice.cons ha hc''⟩
    · rintro ⟨alt, halt, hc⟩
      cases hc with
      | cons ha hc' => exact Choice.cons ha ((ih _).2 ⟨alt, halt, hc'⟩)

/-! ### `Picks` as ONE choice over all segments -/

/-- a pick of the last segment read through the alias table: its extensions, or itself -/
def aliasAlts (c : Ctx) (k : Str) : List Str := (c.cfg.sid.extensionAlias.lookup k).getD [k]

/-- the plain strings of an expression: choose one alternative in EVERY segment, then read the
    last pick through the alias table.  (A rule about segment `i` needs no case distinction
    "`i` is the last segment or not" in this form.) -/
theorem picks_iff_choice (c : Ctx) (s a : Str) :
    Picks c s a ↔ ∃ picks, Choice (Str.splitOn '/' s) picks ∧
      ∃ l ∈ aliasAlts c ((picks.getLast?).getD []), a = Str.joinWith '/' (picks.dropLast ++ [l]) := by
  unfold Picks
  conv => rhs; rw [parts_decomp s]
  simp only [choice_append_singleton, lastAlts, List.mem_flatMap]
  constructor
  · rintro ⟨pi, l, hpi, ⟨alt, halt, hl⟩, rfl⟩
    exact ⟨_, ⟨pi, alt, rfl, hpi, halt⟩, l, by simpa [aliasAlts] using hl, by simp⟩
  · rintro ⟨_, ⟨pi, alt, rfl, hpi, halt⟩, l, hl, rfl⟩
    exact ⟨pi, l, hpi, ⟨alt, halt, by simpa [aliasAlts] using hl⟩, by simp⟩

/-! ### `extensions` and `or_op` on a query-free expression -/

/-- the alias-expanded segments -/
def segs1 (c : Ctx) (s : Str) : List Str :=
  (Str.splitOn '/' s).dropLast ++ [c.handleExtension (lastSeg s)]

theorem infix_segs1 (c : Ctx) (s m : Str) (hne : m ≠ []) (hm : ',' ∉ m) (p : Str)
    (hp : p ∈ segs1 c s) (h : m <:+: p) : m <:+: s ∨ AliasHas c m := by
  simp only [segs1, List.mem_append, List.mem_singleton] at hp
  rcases hp with hp | rfl
  · exact Or.inl (h.trans (Str.splitOn_infix '/' s p (List.dropLast_subset _ hp)))
  · exact (infix_handle c _ m hne hm h).imp_left
      fun h => h.trans (Str.splitOn_infix '/' s _ (Str.getLast_splitOn_mem '/' s))

theorem segs1_noSlash (c : Ctx) (hal : aliasOk c.cfg.sid = true) (s : Str) :
    ∀ p ∈ segs1 c s, '/' ∉ p := by
  intro p hp h
  simp only [segs1, List.mem_append, List.mem_singleton] at hp
  rcases hp with hp | rfl
  · exact Str.splitOn_not_mem '/' s p (List.dropLast_subset _ hp) h
  · rcases infix_handle c _ ['/'] (by simp) (by decide) ((Str.singleton_infix _ _).2 h) with
      h | ⟨k, vs, v, hl, hv, hi⟩
    · exact Str.splitOn_not_mem '/' s _ (Str.getLast_splitOn_mem '/' s) ((Str.singleton_infix _ _).1 h)
    · exact ((aliasOk_entry _ hal hl).ext v hv).noSlash ((Str.singleton_infix _ _).1 hi)

theorem segs1_ne_nil (c : Ctx) (s : Str) : segs1 c s ≠ [] := by simp [segs1]

/-- the string after `extensions` -/
def s1 (c : Ctx) (s : Str) : Str := Str.joinWith '/' (segs1 c s)

theorem extensions_eq (c : Ctx) (s : Str) (hq : '?' ∉ s) : c.extensions s = .ok (s1 c s) := by
  simp [extensions, Str.split1_none '?' s hq, s1, segs1, lastSeg]

theorem splitOn_s1 (c : Ctx) (hal : aliasOk c.cfg.sid = true) (s : Str) :
    Str.splitOn '/' (s1 c s) = segs1 c s :=
  Str.split_join '/' _ (segs1_ne_nil c s) (segs1_noSlash c hal s)

theorem infix_s1 (c : Ctx) (s m : Str) (hM : Marker m) (h : m <:+: s1 c s) :
    m <:+: s ∨ AliasHas c m := by
  obtain ⟨p, hp, hip⟩ := (Str.infix_joinWith_iff '/' m hM.noSlash hM.ne _).1 h
  exact infix_segs1 c s m hM.ne hM.noComma p hp hip

theorem s1_free (c : Ctx) (hal : aliasOk c.cfg.sid = true) (s : Str) (m : Str) (hm : m ∈ marks)
    (h : ¬ m <:+: s) : ¬ m <:+: s1 c s :=
  fun hi => (infix_s1 c s m (marks_marker m hm) hi).elim h (aliasOk_free c hal m hm)

/-- on a query-free expression, `or_op` after `extensions` succeeds and enumerates exactly the plain
    strings the expression stands for -/
theorem orOp_s1 (c : Ctx) (hal : aliasOk c.cfg.sid = true) (s : Str) (hq : '?' ∉ s)
    (hm : ¬ startMark <:+: s) :
    ∃ A, orOp (s1 c s) = .ok A ∧ ∀ a, a ∈ A ↔ Picks c s a := by
  have hfree := s1_free c hal s
  have hq1 : '?' ∉ s1 c s := fun h =>
    hfree ['?'] (by simp [marks]) (fun h' => hq ((Str.singleton_infix _ _).1 h')) ((Str.singleton_infix _ _).2 h)
  have hm1 : ¬ startMark <:+: s1 c s := hfree startMark (by simp [marks]) hm
  -- both branches of `or_op` enumerate the choices over the alias-expanded segments
  have hA : ∃ A, orOp (s1 c s) = .ok A ∧
      ∀ a, a ∈ A ↔ ∃ picks, Choice (segs1 c s) picks ∧ a = Str.joinWith '/' picks := by
    by_cases hcm : Str.hasChar ',' (s1 c s) = true
    · refine ⟨orOnPath (s1 c s), ?_, ?_⟩
      · simp [orOp, hcm, Str.split1_none '?' _ hq1]
      · intro a
        rw [orOnPath_eq _ hm1, splitOn_s1 c hal s]
        exact mem_orProduct _ (segs1_ne_nil c s) a
    · refine ⟨[s1 c s], by simp [orOp, hcm], ?_⟩
      intro a
      have hplain : ∀ p ∈ segs1 c s, ',' ∉ p := fun p hp h =>
        hcm ((Str.hasChar_iff _ _).2 ((Str.mem_joinWith '/' ',' _ (by decide)).2 ⟨p, hp, h⟩))
      simp only [List.mem_singleton]
      constructor
      · rintro rfl
        exact ⟨segs1 c s, (choice_plain _ _ hplain).2 rfl, rfl⟩
      · rintro ⟨picks, hc, rfl⟩
        rw [(choice_plain _ _ hplain).1 hc]; rfl
  obtain ⟨A, hor, hmemA⟩ := hA
  refine ⟨A, hor, fun a => ?_⟩
  rw [hmemA a]
  unfold Picks
  constructor
  · rintro ⟨picks, hc, rfl⟩
    obtain ⟨pi, l, rfl, hpi, hl⟩ := (choice_append_singleton _ _ _).1 hc
    exact ⟨pi, l, hpi, (mem_altsOf_handle c hal _ l).1 hl, rfl⟩
  · rintro ⟨pi, l, hpi, hl, rfl⟩
    exact ⟨pi ++ [l], (choice_append_singleton _ _ _).2 ⟨pi, l, rfl, hpi,
      (mem_altsOf_handle c hal _ l).2 hl⟩, rfl⟩

end DenL
