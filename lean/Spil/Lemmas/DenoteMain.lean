/-
  Spil.Lemmas.DenoteMain — helper lemmas for C07c: the markers in the plain strings and the
  composition of the stages of `unfold_search` on a query-free expression.
-/
import Spil.Spec.Denote
import Spil.Lemmas.DenoteStr
import Spil.Lemmas.DenoteExpand
import Spil.Lemmas.DenoteNarrow
import Spil.Lemmas.MapE

namespace DenL

open Spec Ctx

/-! ### the markers in the plain strings -/

theorem infix_picks (c : Ctx) (s a m : Str) (hM : Marker m) (h : Picks c s a)
    (hi : m <:+: a) : m <:+: s ∨ AliasHas c m := by
  obtain ⟨picks, l, hpi, hl, rfl⟩ := h
  obtain ⟨p, hp, hip⟩ := (Str.infix_joinWith_iff '/' m hM.noSlash hM.ne _).1 hi
  simp only [List.mem_append, List.mem_singleton] at hp
  rcases hp with hp | rfl
  · obtain ⟨seg, hseg, hps⟩ := choice_mem hpi p hp
    exact Or.inl ((hip.trans (altsOf_infix seg p hps)).trans
      (Str.splitOn_infix '/' s seg (List.dropLast_subset _ hseg)))
  · exact (lastAlts_infix c hl hip).imp_left
      fun h => h.trans (Str.splitOn_infix '/' s _ (Str.getLast_splitOn_mem '/' s))

theorem picks_free (c : Ctx) (hal : aliasOk c.cfg.sid = true) (s a : Str) (h : Picks c s a) (m : Str)
    (hm : m ∈ marks) (hs : ¬ m <:+: s) : ¬ m <:+: a :=
  fun hi => (infix_picks c s a m (marks_marker m hm) h hi).elim hs (aliasOk_free c hal m hm)

theorem picks_no_query (c : Ctx) (hal : aliasOk c.cfg.sid = true) (s a : Str) (h : Picks c s a)
    (hq : '?' ∉ s) : '?' ∉ a := by
  rw [← Str.singleton_infix] at hq ⊢
  exact picks_free c hal s a h _ (by simp [marks]) hq

theorem picks_no_colon (c : Ctx) (hal : aliasOk c.cfg.sid = true) (s a : Str) (h : Picks c s a)
    (hc : ':' ∉ s) : ':' ∉ a := by
  rw [← Str.singleton_infix] at hc ⊢
  exact picks_free c hal s a h _ (by simp [marks]) hc

/-! ### composition -/

/-- what `unfold_search` keeps of the narrowed Sids -/
def kept (x : Sid) : Bool := x.typed && !Str.hasChar '?' x.string

theorem kept_iff (x : Sid) : kept x = true ↔ x.typed = true ∧ '?' ∉ x.string := by
  simp [kept, Str.hasChar_eq_false_iff]

/-- the stages of `unfold_search` composed: SpilException when malformed; otherwise typing returns
    `s3` (denoted typed searches and leftovers), narrowed to `s4`, then sorted, deduplicated, `kept` -/
theorem unfold_stages (c : Ctx) (hwf : sidHierOk c.env c.cfg.sid.templates = true)
    (hal : aliasOk c.cfg.sid = true) (s : Str) (hq : '?' ∉ s) (hc : ':' ∉ s)
    (hm : ¬ startMark <:+: s) (hr : Rooted c s) :
    (Malformed c s → c.unfoldSearch s false false = .error .spil) ∧
    (¬ Malformed c s → ∃ s3 : List Sid,
      (∀ y ∈ s3, (y.typed = true ∧ Denotes c s y) ∨ Leftover y) ∧
      (∀ y, Denotes c s y → y ∈ s3) ∧
      c.unfoldSearch s false false =
        (mapE c.typeNarrow s3).map fun s4 => (sortSids s4).filter kept) := by
  obtain ⟨A, hor, hA⟩ := orOp_s1 c hal s hq hm
  have hext := extensions_eq c s hq
  -- the typing stage (`expand_spec`) at every plain string
  have hB : ∀ a ∈ A, _ := fun a ha =>
    expand_spec c hwf a (picks_no_query c hal s a ((hA a).1 ha) hq)
      (picks_no_colon c hal s a ((hA a).1 ha) hc) (hr a ((hA a).1 ha))
  refine ⟨?_, ?_⟩
  · rintro ⟨a, hpa, hma⟩
    have ha := (hA a).2 hpa
    have hflat : flatMapE (fun s => c.expand s false) A = .error .spil := by
      apply Ctx.flatMapE_error_of
      · exact ⟨a, ha, (hB a ha).1 hma⟩
      · intro a' ha' e' he'
        by_cases hm' : MalformedPlain c a'
        · rw [(hB a' ha').1 hm'] at he'
          simp only [Except.error.injEq] at he'
          exact he'.symm
        · obtain ⟨r, hr', _⟩ := (hB a' ha').2 hm'
          rw [hr'] at he'; cases he'
    simp [Ctx.unfoldSearch, Ctx.applyUnfolders, hext, hor, hflat]
  · intro hnm
    have hnm' : ∀ a ∈ A, ¬ MalformedPlain c a := fun a ha hma => hnm ⟨a, (hA a).1 ha, hma⟩
    obtain ⟨s3, hs3⟩ := (flatMapE_ok_iff (fun s => c.expand s false) A).2 (fun a ha => by
      obtain ⟨r, hr', _⟩ := (hB a ha).2 (hnm' a ha)
      exact ⟨r, hr'⟩)
    have hmem := flatMapE_mem _ A s3 hs3
    refine ⟨s3, ?_, ?_, ?_⟩
    · intro y hy
      obtain ⟨a, ha, r, hr', hyr⟩ := (hmem y).1 hy
      obtain ⟨r', hr'', hiff, hleft⟩ := (hB a ha).2 (hnm' a ha)
      rw [hr''] at hr'
      simp only [Except.ok.injEq] at hr'
      subst hr'
      rcases hleft y hyr with ht | hl
      · exact Or.inl ⟨ht, a, (hA a).1 ha, (hiff y).1 ⟨hyr, ht⟩⟩
      · exact Or.inr hl
    · rintro y ⟨a, hpa, hd⟩
      have ha := (hA a).2 hpa
      obtain ⟨r', hr'', hiff, _⟩ := (hB a ha).2 (hnm' a ha)
      exact (hmem y).2 ⟨a, ha, r', hr'', ((hiff y).2 hd).1⟩
    · simp only [Ctx.unfoldSearch, Ctx.applyUnfolders, hext, hor, hs3]
      cases mapE c.typeNarrow s3 <;> rfl

/-! ### `Rooted` from its decidable sufficient condition -/

/-- the segments of a plain string: the picks, then the reading of the last segment -/
theorem picks_split (c : Ctx) (hal : aliasOk c.cfg.sid = true) (s a : Str) (h : Picks c s a) :
    ∃ picks l, Choice (Str.splitOn '/' s).dropLast picks ∧ l ∈ lastAlts c (lastSeg s) ∧
      Str.splitOn '/' a = picks ++ [l] := by
  obtain ⟨picks, l, hpi, hl, rfl⟩ := h
  refine ⟨picks, l, hpi, hl, Str.split_join '/' _ (by simp) ?_⟩
  intro p hp
  rcases List.mem_append.1 hp with hp | hp
  · exact choice_noSlash hpi (fun q hq => Str.splitOn_not_mem '/' s q (List.dropLast_subset _ hq)) p hp
  · rw [List.mem_singleton.1 hp]
    exact lastAlts_noSlash c hal _ (Str.splitOn_not_mem '/' s _ (Str.getLast_splitOn_mem '/' s)) l hl

theorem rooted_of_dec (c : Ctx) (hal : aliasOk c.cfg.sid = true) (s : Str) (h : rootedB s = true) :
    Rooted c s := by
  rintro a hpa ⟨t, rfl⟩
  obtain ⟨picks, l, hpi, _, hsp⟩ := picks_split c hal s _ hpa
  -- a plain string that starts with "/*" has an empty first segment and a second one
  have hlen := choice_length hpi
  rw [show (['/', '*'] ++ t : Str) = [] ++ '/' :: ('*' :: t) from rfl, Str.splitOn_append] at hsp
  unfold rootedB at h
  split at h
  · next p q rest hs =>
    -- several segments: the first pick is an alternative of the first segment, and is empty
    rw [hs] at hpi
    simp only [List.dropLast_cons_cons] at hpi
    cases hpi with
    | cons ha _ =>
      have : Str.splitOn '/' ([] : Str) = [[]] := by decide
      rw [this] at hsp
      simp only [List.cons_append, List.nil_append, List.cons.injEq] at hsp
      rw [← hsp.1] at ha
      simp at h
      exact h ha
  · next hnot =>
    -- one segment: the plain string has one segment too
    cases hs : Str.splitOn '/' s with
    | nil => exact Str.splitOn_ne_nil '/' s hs
    | cons p ps =>
      cases ps with
      | cons q rest => exact hnot p q rest hs
      | nil =>
        rw [hs] at hlen
        have := congrArg List.length hsp
        have h2 := List.length_pos_iff.mpr (Str.splitOn_ne_nil '/' ('*' :: t))
        have h3 := List.length_pos_iff.mpr (Str.splitOn_ne_nil '/' ([] : Str))
        simp only [List.length_append, List.length_cons, List.length_nil, List.dropLast_singleton] at this hlen
        omega

end DenL
