/-
  Spil.Lemmas.Crash — helper lemmas for C17: the exact state after any prefix of the effects of
  the repaired write protocol, and a toy codec.
-/
import Spil.Model.Crash

namespace Crash

theorem crashAfter_zero (f : Files) (effs : List Eff) : crashAfter f effs 0 = f := by
  simp [crashAfter]

theorem foldl_writeTmp (t : Option Bytes) (l acc : Bytes) :
    (l.map Eff.writeTmp).foldl applyEff { target := t, tmp := some acc }
      = { target := t, tmp := some (acc ++ l) } := by
  induction l generalizing acc with
  | nil => simp
  | cons b l ih => simp [applyEff, ih]

/-- `createTmp`, the bytes one by one, `closeTmp`: after any prefix of these effects only the
    temporary file has grown (`closeTmp` changes nothing, `take` saturates) -/
theorem foldl_tmpEffects_take (f : Files) (new : Bytes) (j : Nat) :
    ((Eff.createTmp :: new.map Eff.writeTmp ++ [Eff.closeTmp]).take (j + 1)).foldl applyEff f =
      { target := f.target, tmp := some (new.take j) } := by
  rw [List.cons_append, List.take_succ_cons, List.foldl_cons, List.take_append, List.foldl_append,
    ← List.map_take]
  have h0 : applyEff f Eff.createTmp = { target := f.target, tmp := some [] } := rfl
  rw [h0, foldl_writeTmp, List.nil_append]
  cases (j - (new.map Eff.writeTmp).length) with
  | zero => rfl
  | succ m => simp [applyEff]

/-- the first `new.length + 2` effects only grow the temporary file (`foldl_tmpEffects_take`); the
    last effect `replace` installs it -/
theorem crashAfter_write_succ (f : Files) (new : Bytes) (j : Nat) :
    crashAfter f (writeEffects new) (j + 1)
      = if j ≤ new.length + 1 then { target := f.target, tmp := some (new.take j) }
        else { target := some new, tmp := none } := by
  have hw : writeEffects new =
      (Eff.createTmp :: new.map Eff.writeTmp ++ [Eff.closeTmp]) ++ [Eff.replace] := by
    simp [writeEffects]
  unfold crashAfter
  rw [hw, List.take_append, List.foldl_append, foldl_tmpEffects_take]
  have hlen : (Eff.createTmp :: new.map Eff.writeTmp ++ [Eff.closeTmp]).length = new.length + 2 := by
    simp
  rw [hlen]
  by_cases h : j ≤ new.length + 1
  · rw [if_pos h, show j + 1 - (new.length + 2) = 0 by omega]; rfl
  · obtain ⟨m, hm⟩ : ∃ m, j + 1 - (new.length + 2) = m + 1 := ⟨j - new.length - 2, by omega⟩
    rw [if_neg h, hm, List.take_of_length_le (by omega : new.length ≤ j), List.take_succ_cons,
      List.take_nil]
    rfl

theorem writeEffects_length (new : Bytes) : (writeEffects new).length = new.length + 3 := by
  simp [writeEffects]

theorem crashAfter_write_full (f : Files) (new : Bytes) :
    crashAfter f (writeEffects new) (writeEffects new).length = { target := some new, tmp := none } := by
  rw [writeEffects_length, crashAfter_write_succ]
  have : ¬ new.length + 2 ≤ new.length + 1 := by omega
  simp [this]

theorem crashAfter_write_target (f : Files) (new : Bytes) (k : Nat) :
    (crashAfter f (writeEffects new) k).target = f.target ∨
    (crashAfter f (writeEffects new) k).target = some new := by
  cases k with
  | zero => left; rw [crashAfter_zero]
  | succ j =>
    rw [crashAfter_write_succ]
    split
    · left; rfl
    · right; rfl

theorem setData_eq {D} [Inhabited D] (c : Codec D) (overlay : D → D → D) (f : Files) (attrs : D) :
    setData c overlay f attrs
      = (mergedBytes c overlay f attrs).map (fun new => { target := some new, tmp := none }) := by
  unfold setData
  congr 1
  funext new
  exact crashAfter_write_full f new

theorem readData_enc {D} [Inhabited D] (c : Codec D) (d : D) (t : Option Bytes) :
    readData c { target := some (c.encode d), tmp := t } = d := by
  simp [readData, c.dec_enc]

theorem setData_valid {D} [Inhabited D] (c : Codec D) (overlay : D → D → D) (g : Files)
    (hvalid : g.target = none ∨ ∃ x, g.target = some (c.encode x)) (attrs : D) :
    ∃ f', setData c overlay g attrs = some f' ∧
      (g.target = none → readData c f' = attrs) ∧
      (g.target ≠ none → readData c f' = overlay (readData c g) attrs) := by
  rw [setData_eq]
  rcases hvalid with h | ⟨x, h⟩
  · refine ⟨{ target := some (c.encode attrs), tmp := none }, ?_, ?_, ?_⟩
    · simp [mergedBytes, h]
    · intro _; exact readData_enc c attrs none
    · intro hne; exact absurd h hne
  · refine ⟨{ target := some (c.encode (overlay x attrs)), tmp := none }, ?_, ?_, ?_⟩
    · simp [mergedBytes, h, c.dec_enc]
    · intro hn; rw [h] at hn; cases hn
    · intro _
      rw [readData_enc]
      simp [readData, h, c.dec_enc]

/-! ### a toy codec -/

def toyEnc (d : List Nat) : Bytes := d.map (· + 1) ++ [0]

def toyDec : Bytes → Option (List Nat)
  | [] => none
  | 0 :: rest => if rest = [] then some [] else none
  | (n + 1) :: rest => (toyDec rest).map (n :: ·)

theorem toyEnc_cons (x : Nat) (xs : List Nat) : toyEnc (x :: xs) = (x + 1) :: toyEnc xs := rfl

theorem toyDec_enc (d : List Nat) : toyDec (toyEnc d) = some d := by
  induction d with
  | nil => simp [toyEnc, toyDec]
  | cons x xs ih =>
    rw [toyEnc_cons, toyDec, ih]; rfl

theorem toyDec_prefix (d : List Nat) (k : Nat) (h : k < (toyEnc d).length) :
    toyDec ((toyEnc d).take k) = none := by
  induction d generalizing k with
  | nil =>
    have : k = 0 := by simp [toyEnc] at h; omega
    subst this; simp [toyDec]
  | cons x xs ih =>
    rw [toyEnc_cons] at h ⊢
    cases k with
    | zero => simp [toyDec]
    | succ k =>
      rw [List.take_succ_cons, toyDec, ih k (by simpa using h)]; rfl

end Crash
