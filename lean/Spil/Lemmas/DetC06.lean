/-
  Spil.Lemmas.DetC06 — the dictionary `sid.path()` re-renders for a Sid that `path_to_dict` read
  from a path carries, under `pathConfOk`, exactly the captured path values (or vocabulary
  defaults): it satisfies `valuesOk`, so the reverse check of `format_one` cannot clash.
-/
import Spil.Lemmas.DetDollar

namespace Det

open Spec

/-! ### `distinctStr`, `get_key` -/

theorem distinctStr_iff_nodup (l : List Str) : distinctStr l = true ↔ l.Nodup :=
  Lst.distinctB_iff_nodup rfl (fun _ _ => rfl) l

theorem getKey_of_mem_distinct : ∀ (m : List (Str × Str)),
    distinctStr (m.map (·.2)) = true → ∀ u s, (u, s) ∈ m → Ctx.getKey m s = u := by
  intro m hd u s h
  rcases getKey_cases m s with ⟨k, hk, he⟩ | ⟨hno, _⟩
  · have hn : ((m.map Prod.swap).map (·.1)).Nodup := by
      rw [List.map_map]; exact (distinctStr_iff_nodup _).1 hd
    have h1 := Lst.lookup_of_mem _ hn s k (List.mem_map.2 ⟨_, hk, rfl⟩)
    have h2 := Lst.lookup_of_mem _ hn s u (List.mem_map.2 ⟨_, h, rfl⟩)
    rw [he]
    exact Option.some.inj (h1.symm.trans h2)
  · exact absurd rfl (hno _ h)

/-! ### `pathConfOk`, unfolded -/

theorem confOk_default (e : Env) (pc : PathConf) (h : pathConfOk e pc = true) (k dv : Str)
    (hd : pc.defaults.lookup k = some dv) (l : Str) (t : Template) (hm : (l, t) ∈ pc.templates)
    (ex : Re) (htok : Tok.ph k ex ∈ t) :
    ex.accepts e dv = true ∧ (ex ≠ Re.star Cls.notSlash ∨ unmapped pc k = true) := by
  simp only [pathConfOk, Bool.and_eq_true, List.all_eq_true] at h
  have := h.2 (k, dv) (Lst.lookup_mem _ _ _ hd) (l, t) hm (.ph k ex) htok
  simp only [bne_self_eq_false, Bool.false_or, Bool.and_eq_true, Bool.or_eq_true,
    Bool.not_eq_true', beq_eq_false_iff_ne, ne_eq] at this
  exact this

/-- `mappingOk` writes `get_key` as `Spec.firstKey`, the same definition as `Ctx.getKey` -/
theorem confOk_mapping (e : Env) (pc : PathConf) (h : pathConfOk e pc = true) (k : Str)
    (m : List (Str × Str)) (hm : pc.mapping.lookup k = some m) :
    (∀ pv ∈ m, pv.2 ≠ []) ∧
      ∀ l t, (l, t) ∈ pc.templates → ∀ ex, Tok.ph k ex ∈ t →
        (∀ pv ∈ m, ex.accepts e pv.2 = false) ∧
        (∀ pv ∈ m, ex.accepts e pv.1 = true → ex.accepts e (Ctx.getKey m pv.2) = true) := by
  simp only [pathConfOk, mappingOk, Bool.and_eq_true, List.all_eq_true] at h
  have := h.1.2 (k, m) (Lst.lookup_mem _ _ _ hm)
  refine ⟨?_, ?_⟩
  · intro pv hpv
    have := this.1.2 pv hpv
    simpa using this
  · intro l t hlt ex htok
    have := this.2 (l, t) hlt (.ph k ex) htok
    simp only [bne_self_eq_false, Bool.false_or, Bool.and_eq_true, List.all_eq_true,
      Bool.not_eq_true', Bool.or_eq_true] at this
    refine ⟨this.1, ?_⟩
    intro pv hpv hacc
    rcases this.2 pv hpv with h1 | h1
    · rw [hacc] at h1; exact absurd h1 (by simp)
    · exact h1

theorem closed_word_ne_nil (e : Env) (k : Str) (ex : Re) (a : Atom) (ha : phAtom k ex = some a)
    (hoka : atomOk e a = true) (hex : ex ≠ Re.star Cls.notSlash) (u : Str) (hu : aword e a u) :
    u ≠ [] := by
  refine (aword_nonfree e a ?_ (wordsOk_of_atomOk e a hoka) u hu).1
  rcases phAtom_cases ha with ⟨h, _⟩ | ⟨_, _, _, rfl⟩
  · exact absurd h hex
  · rfl

/-- the mapping round trip alone, path word → sid value → path word: the word comes back as a word
    the expression accepts (the first word listed for its sid value), and the sid value in between
    is the word itself or not empty -/
theorem g2_g0_reaccepted (e : Env) (pc : PathConf) (hwf : pathConfOk e pc = true) (l : Str)
    (t : Template) (hlt : (l, t) ∈ pc.templates) (k : Str) (ex : Re) (htok : Tok.ph k ex ∈ t)
    (u : Str) (hacc : ex.accepts e u = true) :
    ex.accepts e (g2 pc k (g0 pc k u)) = true ∧ (g0 pc k u = u ∨ g0 pc k u ≠ []) := by
  by_cases hno : ∀ m, pc.mapping.lookup k = some m → m = []
  · rw [g0_of_no_mapping pc k u hno, g2_of_no_mapping pc k _ hno]; exact ⟨hacc, Or.inl rfl⟩
  obtain ⟨m, hmm⟩ := Classical.not_forall.1 hno
  obtain ⟨hm, hme⟩ := Classical.not_imp.1 hmm
  obtain ⟨hnonempty, hcl⟩ := confOk_mapping e pc hwf k m hm
  obtain ⟨hnot, hsyn⟩ := hcl l t hlt ex htok
  cases hlu : m.lookup u with
  | some s =>
    have h0 : g0 pc k u = s := by simp [g0, hm, hme, hlu]
    have hmem := Lst.lookup_mem m u s hlu
    have hsne : s ≠ [] := hnonempty _ hmem
    rw [h0]
    refine ⟨?_, Or.inr hsne⟩
    have : s.isEmpty = false := by simpa using hsne
    simp only [g2, hm, this, Bool.false_or, List.isEmpty_iff, hme, if_false]
    exact hsyn (u, s) hmem hacc
  | none =>
    have h0 : g0 pc k u = u := by simp [g0, hm, hme, hlu]
    rw [h0]
    refine ⟨?_, Or.inl rfl⟩
    simp only [g2, hm]
    split
    · exact hacc
    · rw [getKey_of_not_mem]
      · exact hacc
      · intro pv hpv heq
        have := hnot pv hpv
        rw [heq, hacc] at this
        cases this

/-- path value → sid value → (default) → path value: a captured word comes back as a word the
    expression accepts (`g2_g0_reaccepted`; the default when a free key captured the empty string) -/
theorem value_reaccepted (e : Env) (pc : PathConf) (hwf : pathConfOk e pc = true) (l : Str)
    (t : Template) (hlt : (l, t) ∈ pc.templates) (k : Str) (ex : Re) (htok : Tok.ph k ex ∈ t)
    (a : Atom) (ha : phAtom k ex = some a) (hoka : atomOk e a = true) (u : Str)
    (hu : aword e a u) : ex.accepts e (g2 pc k (g1 pc k (g0 pc k u))) = true := by
  have hacc : ex.accepts e u = true := (ph_accepts e k ex a ha u).mpr hu
  obtain ⟨hround, hshape⟩ := g2_g0_reaccepted e pc hwf l t hlt k ex htok u hacc
  cases hd : pc.defaults.lookup k with
  | none => rw [g1_of_no_default pc k _ hd]; exact hround
  | some dd =>
    obtain ⟨hdacc, hns | hun⟩ := confOk_default e pc hwf k dd hd l t hlt ex htok
    · -- a closed placeholder: its words are non-empty, the default never replaces one
      rw [g1_of_ne pc k _ (hshape.elim
        (fun h => h.symm ▸ closed_word_ne_nil e k ex a ha hoka hns u hu) id)]
      exact hround
    · -- a free placeholder with a default: the key is not mapped
      have hno : ∀ m, pc.mapping.lookup k = some m → m = [] := fun m hm => by
        simpa [unmapped, hm] using hun
      rw [g0_of_no_mapping pc k u hno, g2_of_no_mapping pc k _ hno]
      simp only [g1, hd]
      split
      · exact hdacc
      · exact hacc

theorem valuesOk_pathData (e : Env) (pc : PathConf) (hwf : pathConfOk e pc = true) (l : Str)
    (t : Template) (hlt : (l, t) ∈ pc.templates) (d0 : Dict) (hv0 : valuesOk e t d0 = true)
    (ks : List Str)
    (hkeys : Dict.keysEq (Ctx.pathData pc (PathL.readFields pc ks d0) (Template.keys t))
      (Template.keys t) = true) :
    valuesOk e t (Ctx.pathData pc (PathL.readFields pc ks d0) (Template.keys t)) = true := by
  have hok := pathTplsOk_tpl e pc (pathTplsOk_of_confOk e pc hwf) l t hlt
  obtain ⟨fl, hfl, _, hatom, _⟩ := (pathTplOk_iff e t).mp hok
  rw [valuesOk_iff] at hv0 ⊢
  intro k ex htok
  obtain ⟨u, hu, hcu⟩ := hv0 k ex htok
  obtain ⟨a, hafl, ha⟩ := phAtom_of_mem k ex t fl hfl htok
  have hoka : atomOk e a = true := by
    simp only [List.all_eq_true] at hatom
    exact hatom a hafl
  have hk : k ∈ Template.keys t := (mem_keys k t).mpr ⟨ex, htok⟩
  obtain ⟨v, hv⟩ : ∃ v, Dict.get _ k = some v := ⟨_, Dict.get_of_keysEq hkeys hk⟩
  refine ⟨v, hv, ?_⟩
  rcases pathData_get_inv pc _ _ k v hv with ⟨v0, hv0', rfl⟩ | hdef
  · have h1 := Lst.lookup_map_graph_some _ _ k v0 hv0'
    rw [mapToSid_get, hu] at h1
    simp only [Option.map_some, Option.getD_some] at h1
    subst h1
    have hre := value_reaccepted e pc hwf l t hlt k ex htok a ha hoka u
      ((ph_accepts e k ex a ha u).mp hcu)
    exact hre
  · obtain ⟨hacc, _⟩ := confOk_default e pc hwf k v hdef l t hlt ex htok
    exact hacc

/-! ### `path_to_sid` never raises -/

/-- `path_to_sid` never raises under `pathConfOk`: the dictionary `dict_to_path` prepares from what
    `path_to_dict` read satisfies `valuesOk`, so the reverse check cannot clash -/
theorem pathToSid_total_of_confOk (c : Ctx) (p : Str) (cfg : Option Str) (pc : PathConf)
    (hpc : c.cfg.pathConf? cfg = some pc) (hwf : pathConfOk c.env pc = true)
    (hkt : PathL.KeyTypesCover c pc) :
    ∃ r, c.pathToSid p cfg = .ok r := by
  refine PathL.pathToSid_total c p cfg pc hpc hkt (fun ty fields t hr hlook hkeys => ?_)
  obtain ⟨t', d0, ks, hlt, hres, rfl⟩ := PathL.pathToDict_inv c pc p ty fields hr
  have hlook' : pc.resolver.lookup ty = some t' :=
    Lst.lookup_of_mem pc.templates ((distinctStr_iff_nodup _).1 (pathConfOk_labels c.env pc hwf)) ty t' hlt
  have ht : t' = t := Option.some.inj (hlook'.symm.trans hlook)
  subst ht
  have hok := pathTplsOk_tpl c.env pc (pathTplsOk_of_confOk c.env pc hwf) ty t' hlt
  exact formatOne_ne_resolva c.env pc.resolver ty t' hlook' hok _
    (valuesOk_pathData c.env pc hwf ty t' hlt d0 (valuesOk_of_resolveTpl c.env t' p d0 hok hres) ks hkeys)

end Det
