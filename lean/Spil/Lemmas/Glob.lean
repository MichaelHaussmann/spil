/-
  Spil.Lemmas.Glob — string-level facts for the completeness half of C11: the relation `StarRel`
  between a rendered pattern and a rendered path, that it implies the glob relation `Spec.Glob`,
  splits along '/' components, survives `PurePath.normalize`, and gives `World.compMatch` component
  by component.
-/
import Spil.Spec.Glob
import Spil.Lemmas.Find
import Spil.Lemmas.Str

namespace GlobL

open Spec

/-! ### `StarRel` -/

/-- `b` is `a` with some of its `*` characters replaced by strings satisfying `P` -/
inductive StarRel (P : Str → Prop) : Str → Str → Prop
  | nil : StarRel P [] []
  | lit (c : Char) {a b : Str} : StarRel P a b → StarRel P (c :: a) (c :: b)
  | star (v : Str) {a b : Str} : P v → StarRel P a b → StarRel P ('*' :: a) (v ++ b)

theorem StarRel.refl (P : Str → Prop) (a : Str) : StarRel P a a := by
  induction a with
  | nil => exact .nil
  | cons c a ih => exact .lit c ih

theorem StarRel.append {P : Str → Prop} {a b c d : Str} (h : StarRel P a b) (h' : StarRel P c d) :
    StarRel P (a ++ c) (b ++ d) := by
  induction h with
  | nil => exact h'
  | lit x _ ih => exact .lit x ih
  | star v hv _ ih => rw [List.append_assoc]; exact .star v hv ih

theorem StarRel.mono {P Q : Str → Prop} (hpq : ∀ v, P v → Q v) {a b : Str} (h : StarRel P a b) :
    StarRel Q a b := by
  induction h with
  | nil => exact .nil
  | lit c _ ih => exact .lit c ih
  | star v hv _ ih => exact .star v (hpq v hv) ih

theorem StarRel.glob {P : Str → Prop} (hP : ∀ v, P v → '/' ∉ v) {a b : Str} (h : StarRel P a b)
    (hb : '[' ∉ a) : Glob a b := by
  induction h with
  | nil => exact .nil
  | @lit c a b _ ih =>
    simp only [List.mem_cons, not_or] at hb
    exact glob_cons_self c (fun e => hb.1 e.symm) (ih hb.2)
  | star v hv _ ih =>
    simp only [List.mem_cons, not_or] at hb
    exact glob_star_any _ _ v (hP v hv) (ih hb.2)

theorem StarRel.comps {P : Str → Prop} (hP : ∀ v, P v → '/' ∉ v) {a b : Str} (h : StarRel P a b) :
    All2 (StarRel P) (Str.splitOn '/' a) (Str.splitOn '/' b) := by
  induction h with
  | nil => exact .cons .nil .nil
  | @lit c a b _ ih =>
    by_cases hc : c = '/'
    · rw [Str.splitOn_cons, Str.splitOn_cons, if_pos hc, if_pos hc]; exact .cons .nil ih
    · exact ih.splitOn_prepend [c] [c] (by simpa using Ne.symm hc) (by simpa using Ne.symm hc)
        fun _ _ => .lit c
  | star v hv _ ih =>
    exact ih.splitOn_prepend ['*'] v (by decide) (hP v hv) fun _ _ => .star v hv

/-! ### admissible path values -/

/-- `StarRel` takes a `Str → Prop`: `Spec.valOk` as one -/
def VP (v : Str) : Prop := valOk v = true

theorem valOk_unpack (v : Str) (h : valOk v = true) :
    ∃ c cs, v = c :: cs ∧ c ≠ '.' ∧ '/' ∉ v := by
  cases v with
  | nil => simp [valOk] at h
  | cons c cs =>
    simp only [valOk, List.isEmpty_cons, Bool.not_false, Bool.true_and, Bool.and_eq_true,
      Bool.not_eq_true', Str.hasChar_eq_false_iff, Str.startsWith] at h
    refine ⟨c, cs, rfl, ?_, h.1⟩
    intro e
    subst e
    simp [List.isPrefixOf] at h

theorem VP_noSlash (v : Str) (h : VP v) : '/' ∉ v := by
  obtain ⟨_, _, _, _, h2⟩ := valOk_unpack v h
  exact h2

theorem keep_cons_ne_dot (c : Char) (s : Str) (hc : c ≠ '.') : PurePath.keep (c :: s) = true := by
  simp only [PurePath.keep, List.isEmpty_cons, Bool.not_false, Bool.true_and, bne_iff_ne, ne_eq]
  intro e
  injection e with e1 _
  exact hc e1

theorem keep_cons_tail (c : Char) (s : Str) (hs : s ≠ []) : PurePath.keep (c :: s) = true := by
  simp only [PurePath.keep, List.isEmpty_cons, Bool.not_false, Bool.true_and, bne_iff_ne, ne_eq]
  intro e
  injection e with _ e2
  exact hs e2

theorem keep_ne_nil (s : Str) (h : PurePath.keep s = true) : s ≠ [] := by
  intro e; subst e; simp [PurePath.keep] at h

/-- the induction runs on `a = b ∨ both kept`: whether `c :: a` is kept depends on `a ≠ []`, not on
    whether `a` is kept -/
theorem StarRel.keep_eq {a b : Str} (h : StarRel VP a b) : PurePath.keep a = PurePath.keep b := by
  have : a = b ∨ (PurePath.keep a = true ∧ PurePath.keep b = true) := by
    induction h with
    | nil => exact Or.inl rfl
    | @lit c a b _ ih =>
      rcases ih with rfl | ⟨ka, kb⟩
      · exact Or.inl rfl
      · exact Or.inr ⟨keep_cons_tail c a (keep_ne_nil a ka), keep_cons_tail c b (keep_ne_nil b kb)⟩
    | @star v a b hv _ _ =>
      obtain ⟨c, cs, rfl, hc, _⟩ := valOk_unpack v hv
      exact Or.inr ⟨keep_cons_ne_dot '*' a (by decide), keep_cons_ne_dot c (cs ++ b) hc⟩
  rcases this with rfl | ⟨ka, kb⟩
  · rfl
  · rw [ka, kb]

/-- the hidden-name rule: a name related to a pattern starts with '.' only if the pattern does -/
theorem StarRel.hidden {a b : Str} (h : StarRel VP a b) (hb : Str.startsWith b ['.'] = true) :
    Str.startsWith a ['.'] = true := by
  cases h with
  | nil => simp [Str.startsWith, List.isPrefixOf] at hb
  | lit c _ => rw [Str.startsWith_cons_singleton] at hb ⊢; exact hb
  | star v hv _ =>
    obtain ⟨c, cs, rfl, hc, _⟩ := valOk_unpack v hv
    rw [List.cons_append, Str.startsWith_cons_singleton] at hb
    exact absurd (by simpa using hb) (fun e : '.' = c => hc e.symm)

theorem leadingSlashes_cons (c : Char) (r : Str) :
    PurePath.leadingSlashes (c :: r) = if c = '/' then PurePath.leadingSlashes r + 1 else 0 := by
  by_cases hc : c = '/'
  · subst hc; simp [PurePath.leadingSlashes]
  · rw [if_neg hc]
    unfold PurePath.leadingSlashes
    split
    · next h => simp at h; exact absurd h.1 hc
    · rfl

theorem StarRel.leading {a b : Str} (h : StarRel VP a b) :
    PurePath.leadingSlashes a = PurePath.leadingSlashes b := by
  induction h with
  | nil => rfl
  | lit c _ ih => rw [leadingSlashes_cons, leadingSlashes_cons, ih]
  | @star v a b hv _ _ =>
    obtain ⟨c, cs, rfl, _, hs⟩ := valOk_unpack v hv
    have hc : c ≠ '/' := by
      intro e; apply hs; simp [e]
    rw [leadingSlashes_cons, List.cons_append, leadingSlashes_cons, if_neg (by decide), if_neg hc]

/-! ### `PurePath.normalize` -/

/-- the root `PurePosixPath` keeps: two leading slashes stay two, any other positive number is one -/
def normRoot (n : Nat) : Str := if n == 2 then ['/', '/'] else if n ≥ 1 then ['/'] else []

/-- the segments `normRoot n` puts in front of those of a body -/
def normPre (n : Nat) : List Str := if n = 2 then [[], []] else if n = 0 then [] else [[]]

theorem normRoot_spec (n : Nat) : (normRoot n).isEmpty = decide (n = 0) ∧
    ∀ body, Str.splitOn '/' (normRoot n ++ body) = normPre n ++ Str.splitOn '/' body := by
  unfold normRoot normPre
  by_cases h2 : n = 2
  · subst h2; simp [Str.splitOn_cons]
  · by_cases h0 : n = 0
    · subst h0; simp
    · have h1 : n ≥ 1 := by omega
      simp [h2, h0, h1, Str.splitOn_cons]

/-- the components of a normalised path, from the number of leading slashes and the kept
    components of the raw string -/
def normComps (n : Nat) (kept : List Str) : List Str :=
  if kept.isEmpty then (if n = 0 then [['.']] else normPre n ++ [[]]) else normPre n ++ kept

/-- `PurePath.normalize` as a function of the leading slashes and the kept components; written so
    that `normalize_eq` holds by `rfl` -/
def normOf (n : Nat) (comps : List Str) : Str :=
  let body := Str.joinWith '/' comps
  if (normRoot n).isEmpty && body.isEmpty then ['.'] else normRoot n ++ body

theorem normalize_eq (x : Str) :
    PurePath.normalize x =
      normOf (PurePath.leadingSlashes x) ((Str.splitOn '/' x).filter PurePath.keep) := rfl

theorem splitOn_normOf (n : Nat) (kept : List Str) (hfree : ∀ c ∈ kept, '/' ∉ c)
    (hne : ∀ c ∈ kept, c ≠ []) : Str.splitOn '/' (normOf n kept) = normComps n kept := by
  obtain ⟨hroot, hsplit⟩ := normRoot_spec n
  unfold normOf normComps
  cases kept with
  | nil =>
    by_cases h0 : n = 0
    · subst h0; rfl
    · simp only [hroot, h0, decide_false, Bool.false_and, Bool.false_eq_true, if_false, hsplit,
        List.isEmpty_nil, if_true]
      rfl
  | cons c cs =>
    simp only [List.isEmpty_eq_false_iff.2 (Str.joinWith_ne_nil '/' c cs (hne c (by simp))),
      Bool.and_false, Bool.false_eq_true, if_false, hsplit, Str.split_join '/' _ (by simp) hfree,
      List.isEmpty_cons]

theorem splitOn_normalize (x : Str) :
    Str.splitOn '/' (PurePath.normalize x) =
      normComps (PurePath.leadingSlashes x) ((Str.splitOn '/' x).filter PurePath.keep) := by
  rw [normalize_eq]
  exact splitOn_normOf _ _
    (fun c hc => Str.splitOn_not_mem '/' x c (List.mem_filter.1 hc).1)
    (fun c hc => keep_ne_nil c (List.mem_filter.1 hc).2)

theorem all2_normComps {R : Str → Str → Prop} (hrefl : ∀ x, R x x) (n : Nat) {ks ke : List Str}
    (h : All2 R ks ke) : All2 R (normComps n ks) (normComps n ke) := by
  unfold normComps
  cases h with
  | nil => exact All2.refl _ (fun a _ => hrefl a)
  | cons h1 h2 =>
    simp only [List.isEmpty_cons, Bool.false_eq_true, if_false]
    exact All2.append (All2.refl _ (fun a _ => hrefl a)) (.cons h1 h2)

theorem StarRel.norm_comps {a b : Str} (h : StarRel VP a b) :
    All2 (StarRel VP) (Str.splitOn '/' (PurePath.normalize a))
      (Str.splitOn '/' (PurePath.normalize b)) := by
  rw [splitOn_normalize, splitOn_normalize, h.leading]
  apply all2_normComps (StarRel.refl VP)
  exact All2.filter _ _ (fun x y hxy => hxy.keep_eq) (h.comps VP_noSlash)

/-! ### `compMatch` -/

theorem compMatch_eq (pat name : Str) :
    World.compMatch pat name =
      (globB ⟨fun _ => false⟩ pat name &&
        !(Str.hasChar '*' pat && !Str.startsWith pat ['.'] && Str.startsWith name ['.'])) := by
  unfold World.compMatch globB
  cases Find.glob2re pat with
  | none => rfl
  | some items => rfl

theorem StarRel.compMatch {a b : Str} (h : StarRel VP a b) (hb : '[' ∉ a) :
    World.compMatch a b = true := by
  rw [compMatch_eq, Bool.and_eq_true]
  refine ⟨(Find.globB_iff_glob _ a hb b).2 (h.glob VP_noSlash hb), ?_⟩
  cases hs : Str.startsWith b ['.'] with
  | false => simp
  | true => simp [h.hidden hs]

theorem StarRel.norm_compMatch {a b : Str} (h : StarRel VP a b)
    (hb : '[' ∉ PurePath.normalize a) :
    All2 (fun x y => World.compMatch x y = true) (Str.splitOn '/' (PurePath.normalize a))
      (Str.splitOn '/' (PurePath.normalize b)) := by
  apply All2.mono h.norm_comps
  intro x hx y _ hxy
  exact hxy.compMatch (fun hm => hb (Str.mem_of_mem_splitOn '/' _ x '[' hx hm))

theorem mem_glob (w : World) (pat p : Str) :
    p ∈ w.glob pat ↔ p ∈ w.nodes.map (·.1) ∧
      All2 (fun x y => World.compMatch x y = true) (Str.splitOn '/' pat) (Str.splitOn '/' p) := by
  unfold World.glob
  rw [List.mem_filter, all2_iff_zip]
  simp only [Bool.and_eq_true, beq_iff_eq, eq_comm (a := (Str.splitOn '/' p).length)]

end GlobL
