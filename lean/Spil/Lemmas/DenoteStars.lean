/-
  Spil.Lemmas.DenoteStars — helper lemmas for the "/**" rule of C10b: filling the "/**" of an
  expression commutes with choosing the alternatives, when "**" is a whole segment that is not the
  last one.
-/
import Spil.Spec.Denote
import Spil.Lemmas.DenoteAlg

namespace DenL

open Spec Ctx ExpL

/-! ### the plain strings of `x/b`: a choice in `x`, then a plain string of `b` -/

/-- `p` is `x` with one alternative chosen in every segment (no alias is read) -/
def Chosen (x p : Str) : Prop := ∃ picks, Choice (Str.splitOn '/' x) picks ∧ p = Str.joinWith '/' picks

theorem picks_slash (c : Ctx) (x b a : Str) :
    Picks c (x ++ '/' :: b) a ↔ ∃ p q, Chosen x p ∧ Picks c b q ∧ a = p ++ '/' :: q := by
  have hB := Str.splitOn_ne_nil '/' b
  have hjoin : ∀ pX pB l, Choice (Str.splitOn '/' x) pX →
      Str.joinWith '/' (pX ++ pB ++ [l]) = Str.joinWith '/' pX ++ '/' :: Str.joinWith '/' (pB ++ [l]) :=
    fun pX pB l hX => by
      rw [List.append_assoc,
        Str.joinWith_append '/' pX _ (choice_ne_nil hX (Str.splitOn_ne_nil '/' x)) (by simp)]
  unfold Picks
  rw [Str.splitOn_append, List.dropLast_append_of_ne_nil hB, Lst.getLast?_append_ne _ _ hB]
  constructor
  · rintro ⟨picks, l, hc, hl, rfl⟩
    obtain ⟨pX, pB, rfl, hX, hpB⟩ := (choice_append _ _ _).1 hc
    exact ⟨_, _, ⟨pX, hX, rfl⟩, ⟨pB, l, hpB, hl, rfl⟩, hjoin pX pB l hX⟩
  · rintro ⟨_, _, ⟨pX, hX, rfl⟩, ⟨pB, l, hpB, hl, rfl⟩, rfl⟩
    exact ⟨pX ++ pB, l, (choice_append _ _ _).2 ⟨pX, pB, rfl, hX, hpB⟩, hl, (hjoin pX pB l hX).symm⟩

/-! ### a plain segment, "/**" and k × "/*" pass through a choice unchanged -/

theorem chosen_seg (m : Str) (hs : '/' ∉ m) (hc : ',' ∉ m) (x p : Str) :
    Chosen (x ++ '/' :: m) p ↔ ∃ px, Chosen x px ∧ p = px ++ '/' :: m := by
  have hjoin : ∀ pi, Choice (Str.splitOn '/' x) pi →
      Str.joinWith '/' (pi ++ [m]) = Str.joinWith '/' pi ++ '/' :: m :=
    fun pi hpi => Str.joinWith_concat '/' pi m (choice_ne_nil hpi (Str.splitOn_ne_nil '/' x))
  unfold Chosen
  rw [Str.splitOn_append, Str.splitOn_of_not_mem '/' m hs]
  simp only [choice_append_singleton, altsOf_of_noComma m hc,
    List.mem_singleton]
  constructor
  · rintro ⟨_, ⟨pi, l, rfl, hpi, rfl⟩, rfl⟩
    exact ⟨_, ⟨pi, hpi, rfl⟩, hjoin pi hpi⟩
  · rintro ⟨_, ⟨pi, hpi, rfl⟩, rfl⟩
    exact ⟨_, ⟨pi, m, rfl, hpi, rfl⟩, (hjoin pi hpi).symm⟩

theorem chosen_slashStars (x p : Str) :
    Chosen (x ++ slashStars) p ↔ ∃ px, Chosen x px ∧ p = px ++ slashStars :=
  chosen_seg ['*', '*'] (by decide) (by decide) x p

theorem chosen_stars : ∀ (k : Nat) (x p : Str),
    Chosen (x ++ stars k) p ↔ ∃ px, Chosen x px ∧ p = px ++ stars k
  | 0, x, p => by simp [stars]
  | k + 1, x, p => by
    have e : ∀ y : Str, y ++ stars (k + 1) = (y ++ '/' :: ['*']) ++ stars k := by
      intro y; rw [stars_succ]; simp
    simp only [e, chosen_stars k, chosen_seg ['*'] (by decide) (by decide)]
    constructor
    · rintro ⟨_, ⟨px, hpx, rfl⟩, rfl⟩
      exact ⟨px, hpx, rfl⟩
    · rintro ⟨px, hpx, rfl⟩
      exact ⟨_, ⟨px, hpx, rfl⟩, rfl⟩

theorem picks_around (c : Ctx) (m : Str)
    (hm : ∀ x p, Chosen (x ++ m) p ↔ ∃ px, Chosen x px ∧ p = px ++ m) (x b a : Str) :
    Picks c (x ++ m ++ '/' :: b) a ↔ ∃ px q, Chosen x px ∧ Picks c b q ∧ a = px ++ m ++ '/' :: q := by
  simp only [picks_slash, hm]
  constructor
  · rintro ⟨_, q, ⟨px, hpx, rfl⟩, hq, rfl⟩
    exact ⟨px, q, hpx, hq, rfl⟩
  · rintro ⟨px, q, hpx, hq, rfl⟩
    exact ⟨_, q, ⟨px, hpx, rfl⟩, hq, rfl⟩

/-! ### filling "/**" commutes with choosing -/

/-- ("**"), plain strings: filling the "/**" of an expression whose "**" is a whole, non-last
    segment commutes with choosing the alternatives.  `hp1` (every plain string has one "/**" too) does
    not follow from `h1`: an alias extension or an alternative may bring in another -/
theorem picks_fill (c : Ctx) (x b : Str) (k : Nat)
    (h1 : Str.count (x ++ slashStars ++ '/' :: b) slashStars = 1)
    (hp1 : ∀ a, Picks c (x ++ slashStars ++ '/' :: b) a → Str.count a slashStars = 1) (a' : Str) :
    Picks c (fill (x ++ slashStars ++ '/' :: b) k) a' ↔
      ∃ a, Picks c (x ++ slashStars ++ '/' :: b) a ∧ a' = fill a k := by
  rw [fill_at x ('/' :: b) k h1, picks_around c _ (chosen_stars k)]
  constructor
  · rintro ⟨px, q, hpx, hq, rfl⟩
    have hpick := (picks_around c _ chosen_slashStars x b _).2 ⟨px, q, hpx, hq, rfl⟩
    exact ⟨_, hpick, (fill_at px ('/' :: q) k (hp1 _ hpick)).symm⟩
  · rintro ⟨a, hpa, rfl⟩
    obtain ⟨px, q, hpx, hq, rfl⟩ := (picks_around c _ chosen_slashStars x b a).1 hpa
    rw [fill_at px ('/' :: q) k (hp1 _ hpa)]
    exact ⟨px, q, hpx, hq, rfl⟩

theorem chosen_length {x p : Str} (h : Chosen x p) :
    (Str.splitOn '/' p).length = (Str.splitOn '/' x).length := by
  obtain ⟨pX, hX, rfl⟩ := h
  rw [Str.split_join '/' pX (choice_ne_nil hX (Str.splitOn_ne_nil '/' x)), choice_length hX]
  exact choice_noSlash hX (Str.splitOn_not_mem '/' x)

/-- a plain string of `x/**/b` is `u/**/w`, and the root (`Spec.rootOfSid`: the levels of `x`) of any
    Sid whose string is a filling of it is `u` -/
theorem picks_slashStars_inv (c : Ctx) (x b a : Str) (hpa : Picks c (x ++ slashStars ++ '/' :: b) a) :
    ∃ u w, a = u ++ slashStars ++ '/' :: w ∧
      ∀ k (y : Sid), y.string = u ++ stars k ++ '/' :: w → rootOfSid (Str.splitOn '/' x).length y = u := by
  obtain ⟨px, q, hpx, _, rfl⟩ := (picks_around c _ chosen_slashStars x b a).1 hpa
  refine ⟨px, q, rfl, fun k y hy => ?_⟩
  obtain ⟨r, hr⟩ := stars_slash_head k q
  rw [rootOfSid, hy, List.append_assoc, hr, Str.splitOn_append, ← chosen_length hpx, List.take_left' rfl,
    Str.join_split]

/-- for a typed search, "of a leaf type with respect to its root" in terms of the template -/
theorem leafTyped_typedAs (c : Ctx) (n : Nat) (p : Str × Template) (v u : Str)
    (hacc : accepts c.env p.2 v = true) (hroot : rootOfSid n (typedAs p.1 p.2 v) = u) :
    LeafTyped c n (typedAs p.1 p.2 v) ↔
      ∃ lk, rootLeafKey c u = some lk ∧ (keysOf p.2).getLast? = some lk := by
  unfold LeafTyped
  rw [hroot]
  simp only [Ctx.keytype, typedAs]
  rw [ExpL.fieldsOf_last c.env p.2 _ hacc]

end DenL
