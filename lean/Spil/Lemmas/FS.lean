/-
  Spil.Lemmas.FS — lemmas about the abstract file tree (`World`), in this order: the tree invariant
  and the extension relation `Ext`; `mkdirP` / `touchP`; sidecar paths; `writeData` / `create` /
  `update` and histories of them (`runOps_ext`); `getData` without attribute list (`stored`); a
  generic fold with a memo (`memoStep`); the star
  search `pathsStarGo` as such a fold under `verdict`, and that it ignores the `DataConf`.
-/
import Spil.Spec.FS
import Spil.Lemmas.Str
import Spil.Lemmas.Lst
import Spil.Lemmas.Dict

namespace FSL

open Spec World

/-! ### the tree -/

def canon (cs : List Str) : Str := '/' :: Str.joinWith '/' cs

def CompsOk (cs : List Str) : Prop := ∀ c ∈ cs, c ≠ [] ∧ '/' ∉ c

theorem canonPath_iff (p : Str) : CanonPath p ↔ ∃ cs, cs ≠ [] ∧ CompsOk cs ∧ p = canon cs := Iff.rfl

theorem CompsOk.append_left {a b : List Str} (h : CompsOk (a ++ b)) : CompsOk a :=
  fun c hc => h c (List.mem_append_left _ hc)

theorem CompsOk.take {a : List Str} (h : CompsOk a) (n : Nat) : CompsOk (a.take n) :=
  fun c hc => h c (List.mem_of_mem_take hc)

theorem splitOn_canon (cs : List Str) (hne : cs ≠ []) (h : CompsOk cs) :
    Str.splitOn '/' (canon cs) = [] :: cs := by
  unfold canon
  simp only [Str.splitOn, if_true]
  rw [Str.split_join '/' cs hne (fun p hp => (h p hp).2)]

theorem filter_comps (cs : List Str) (h : CompsOk cs) : cs.filter (fun c => !c.isEmpty) = cs := by
  rw [List.filter_eq_self]
  intro c hc
  have := (h c hc).1
  cases c with
  | nil => exact absurd rfl this
  | cons _ _ => rfl

theorem ancestors_canon (cs : List Str) (hne : cs ≠ []) (h : CompsOk cs) :
    ancestors (canon cs) = (List.range (cs.length - 1)).map (fun i => canon (cs.take (i + 1))) := by
  unfold ancestors
  simp only [splitOn_canon cs hne h, List.filter_cons, List.isEmpty_nil, Bool.not_true,
    filter_comps cs h]
  rfl

theorem ancestors_canon_single (c : Str) (h : CompsOk [c]) : ancestors (canon [c]) = [] := by
  rw [ancestors_canon [c] (by simp) h]; rfl

theorem ancestors_root : ancestors ['/'] = [] := by decide

theorem not_canonPath_root : ¬ CanonPath ['/'] := by
  rintro ⟨cs, hne, hok, heq⟩
  obtain ⟨a, rest, rfl⟩ := List.exists_cons_of_ne_nil hne
  exact Str.joinWith_ne_nil '/' a rest (hok a (by simp)).1 (List.cons.inj heq).2.symm

theorem ancestors_canon_snoc (cs : List Str) (c : Str) (hne : cs ≠ []) (h : CompsOk (cs ++ [c])) :
    ancestors (canon (cs ++ [c])) = ancestors (canon cs) ++ [canon cs] := by
  rw [ancestors_canon (cs ++ [c]) (by simp) h, ancestors_canon cs hne h.append_left]
  obtain ⟨m, hm⟩ : ∃ m, cs.length = m + 1 := by
    cases cs with
    | nil => exact absurd rfl hne
    | cons a as => exact ⟨as.length, rfl⟩
  have h1 : (cs ++ [c]).length - 1 = m + 1 := by simp [hm]
  have h2 : cs.length - 1 = m := by simp [hm]
  rw [h1, h2, List.range_succ, List.map_append]
  congr 1
  · apply List.map_congr_left
    intro i hi
    have : i < m := by simpa using hi
    rw [List.take_append_of_le_length (by omega)]
  · simp only [List.map_cons, List.map_nil]
    rw [List.take_append_of_le_length (by omega), List.take_of_length_le (by omega)]

/-! ### adding nodes -/

theorem kind_add_preserve (w : World) (x : Str) (k : Node) (q : Str) (kq : Node)
    (h : w.kind? q = some kq) :
    ({ w with nodes := w.nodes ++ [(x, k)] } : World).kind? q = some kq := by
  unfold kind? at *
  simp [List.lookup_append, h]

theorem kind_add_self (w : World) (x : Str) (k : Node) (h : w.kind? x = none) :
    ({ w with nodes := w.nodes ++ [(x, k)] } : World).kind? x = some k := by
  unfold kind? at *
  simp [List.lookup_append, h]

theorem treeOk_add (w : World) (x : Str) (k : Node) (ht : TreeOk w) (hx : w.kind? x = none)
    (ha : ∀ a ∈ ancestors x, w.kind? a = some Node.dir) :
    TreeOk { w with nodes := w.nodes ++ [(x, k)] } := by
  refine ⟨?_, ?_⟩
  · have hnm : x ∉ w.nodes.map (·.1) := (Lst.lookup_eq_none_iff w.nodes x).1 hx
    rw [List.map_append]
    exact (Lst.nodup_snoc _ _).2 ⟨ht.1, hnm⟩
  · intro p kp hp a hap
    apply kind_add_preserve
    simp only [List.mem_append, List.mem_singleton, Prod.mk.injEq] at hp
    rcases hp with hp | ⟨rfl, rfl⟩
    · exact ht.2 p kp hp a hap
    · exact ha a hap

theorem treeOk_anc {w : World} (ht : TreeOk w) {p : Str} {k : Node} (h : w.kind? p = some k) :
    ∀ a ∈ ancestors p, w.kind? a = some Node.dir :=
  ht.2 p k (Lst.lookup_mem w.nodes p k h)

/-- `w'` is a well-formed tree in which every node of `w` still exists, with its kind; nothing is
    said about the sidecars -/
structure Ext (w w' : World) : Prop where
  tree : TreeOk w'
  keep : ∀ q k, w.kind? q = some k → w'.kind? q = some k

theorem Ext.refl {w : World} (ht : TreeOk w) : Ext w w := ⟨ht, fun _ _ h => h⟩

theorem Ext.trans {w w1 w2 : World} (h1 : Ext w w1) (h2 : Ext w1 w2) : Ext w w2 :=
  ⟨h2.tree, fun q k h => h2.keep q k (h1.keep q k h)⟩

theorem Ext.add {w : World} (ht : TreeOk w) {x : Str} (k : Node) (hx : w.kind? x = none)
    (ha : ∀ a ∈ ancestors x, w.kind? a = some Node.dir) :
    Ext w { w with nodes := w.nodes ++ [(x, k)] } :=
  ⟨treeOk_add w x k ht hx ha, fun q kq h => kind_add_preserve w x k q kq h⟩

theorem Ext.of_nodes_eq {w w' : World} (ht : TreeOk w) (h : w'.nodes = w.nodes) : Ext w w' := by
  unfold TreeOk kind? at ht
  refine ⟨?_, fun q k hq => ?_⟩ <;> unfold TreeOk kind? at * <;> rw [h]
  · exact ht
  · exact hq

theorem Ext.pathExists {w w' : World} (h : Ext w w') {q : Str} (hq : w.pathExists q = true) :
    w'.pathExists q = true := by
  unfold World.pathExists at *
  cases hk : w.kind? q with
  | none => rw [hk] at hq; cases hq
  | some k => rw [h.keep q k hk]; rfl

/-! ### `mkdirP` -/

/-- the fold step of `mkdirP` -/
def mkStep (acc : Except Err World) (d : Str) : Except Err World :=
  match acc with
  | .error e => .error e
  | .ok w =>
    match w.kind? d with
    | some .dir => .ok w
    | some .file => .error .os
    | none => .ok { w with nodes := w.nodes ++ [(d, .dir)] }

theorem mkdirP_eq (w : World) (p : Str) : mkdirP w p = (ancestors p ++ [p]).foldl mkStep (.ok w) := rfl

/-- what a successful `mkdirP w p` guarantees of its result `w'` -/
def MkPost (w w' : World) (p : Str) : Prop :=
  Ext w w' ∧ w'.kind? p = some Node.dir ∧ w'.sidecars = w.sidecars

theorem mkStep_inv (w w' : World) (x : Str) (ht : TreeOk w)
    (ha : ∀ a ∈ ancestors x, w.kind? a = some Node.dir) (h : mkStep (.ok w) x = .ok w') :
    MkPost w w' x := by
  unfold mkStep at h
  simp only at h
  split at h
  · next hk => cases h; exact ⟨.refl ht, hk, rfl⟩
  · cases h
  · next hk => cases h; exact ⟨.add ht _ hk ha, kind_add_self w x _ hk, rfl⟩

theorem mkdirP_snoc (w : World) (cs : List Str) (c : Str) (hne : cs ≠ []) (h : CompsOk (cs ++ [c])) :
    mkdirP w (canon (cs ++ [c])) = mkStep (mkdirP w (canon cs)) (canon (cs ++ [c])) := by
  rw [mkdirP_eq, mkdirP_eq, ancestors_canon_snoc cs c hne h, List.foldl_append]
  rfl

theorem MkPost.anc_snoc {w w1 : World} {cs : List Str} {c : Str} (hne : cs ≠ [])
    (h : CompsOk (cs ++ [c])) (hm : MkPost w w1 (canon cs)) :
    ∀ a ∈ ancestors (canon (cs ++ [c])), w1.kind? a = some Node.dir := by
  rw [ancestors_canon_snoc cs c hne h]
  intro a ha
  simp only [List.mem_append, List.mem_singleton] at ha
  rcases ha with ha | rfl
  · exact treeOk_anc hm.1.tree hm.2.1 a ha
  · exact hm.2.1

theorem anc_single {c : Str} (h : CompsOk [c]) (P : Str → Prop) : ∀ a ∈ ancestors (canon [c]), P a := by
  rw [ancestors_canon_single c h]; simp

/-- induction from the last component: on `r` for the components `r.reverse`, so that the `cons`
    case adds a component at the end (`mkdirP_snoc`) -/
theorem mkdirP_canon_rev (r : List Str) (hne : r ≠ []) (h : CompsOk r.reverse) (w w' : World)
    (ht : TreeOk w) (hm : mkdirP w (canon r.reverse) = .ok w') : MkPost w w' (canon r.reverse) := by
  induction r generalizing w' with
  | nil => exact absurd rfl hne
  | cons c r ih =>
    by_cases hr : r = []
    · subst hr
      simp only [List.reverse_cons, List.reverse_nil, List.nil_append] at *
      rw [mkdirP_eq, ancestors_canon_single c h] at hm
      exact mkStep_inv w w' _ ht (anc_single h _) hm
    · simp only [List.reverse_cons] at *
      have hr' : r.reverse ≠ [] := by simpa using hr
      rw [mkdirP_snoc w _ c hr' h] at hm
      cases h1 : mkdirP w (canon r.reverse) with
      | error e => rw [h1] at hm; simp [mkStep] at hm
      | ok w1 =>
        rw [h1] at hm
        have h1' := ih hr h.append_left w1 h1
        obtain ⟨e2, k2, s2⟩ := mkStep_inv w1 w' _ h1'.1.tree (h1'.anc_snoc hr' h) hm
        exact ⟨h1'.1.trans e2, k2, s2.trans h1'.2.2⟩

theorem mkdirP_canon (p : Str) (hp : CanonPath p) (w w' : World) (ht : TreeOk w)
    (hm : mkdirP w p = .ok w') : MkPost w w' p := by
  obtain ⟨cs, hne, h, rfl⟩ := (canonPath_iff p).1 hp
  have := mkdirP_canon_rev cs.reverse (by simpa using hne) (by simpa using h) w w' ht
  simp only [List.reverse_reverse] at this
  exact this hm

theorem mkdirP_root (w w' : World) (ht : TreeOk w) (hm : mkdirP w ['/'] = .ok w') :
    MkPost w w' ['/'] := by
  rw [mkdirP_eq, ancestors_root] at hm
  exact mkStep_inv w w' _ ht (by rw [ancestors_root]; simp) hm

/-! ### `parent` and `touchP` -/

theorem parent_canon_single (c : Str) (h : CompsOk [c]) : PurePath.parent (canon [c]) = ['/'] := by
  unfold PurePath.parent
  -- the pieces are `[[], c]`: dropping the last leaves the empty join, and the path starts with '/'
  simp only [splitOn_canon [c] (by simp) h]
  rfl

theorem parent_canon_snoc (cs : List Str) (c : Str) (hne : cs ≠ []) (h : CompsOk (cs ++ [c])) :
    PurePath.parent (canon (cs ++ [c])) = canon cs := by
  unfold PurePath.parent
  simp only [splitOn_canon (cs ++ [c]) (by simp) h]
  have : ([] :: (cs ++ [c])).dropLast = [] :: cs := by
    rw [← List.cons_append, List.dropLast_concat]
  rw [this]
  cases cs with
  | nil => exact absurd rfl hne
  | cons a as => rfl

/-- what a successful `touchP w p` guarantees of its result `w'` -/
def TouchPost (w w' : World) (p : Str) : Prop :=
  Ext w w' ∧ w'.pathExists p = true ∧ w'.sidecars = w.sidecars

/-- the last step of `touchP`, after the parent `par` has been made -/
theorem touchP_last_step (w w1 : World) (par p : Str) (hm : MkPost w w1 par)
    (hanc : ∀ a ∈ ancestors p, w1.kind? a = some Node.dir) :
    TouchPost w (if w1.pathExists p then w1 else { w1 with nodes := w1.nodes ++ [(p, Node.file)] }) p := by
  obtain ⟨e1, _, s1⟩ := hm
  split
  · next he => exact ⟨e1, he, s1⟩
  · next he =>
    have hk : w1.kind? p = none := by
      unfold pathExists at he
      cases hh : w1.kind? p with
      | none => rfl
      | some v => simp [hh] at he
    refine ⟨e1.trans (.add e1.tree _ hk hanc), ?_, s1⟩
    unfold pathExists
    rw [kind_add_self w1 p _ hk]; rfl

theorem touchP_canon (p : Str) (hp : CanonPath p) (w w' : World) (ht : TreeOk w)
    (hm : touchP w p = .ok w') : TouchPost w w' p := by
  obtain ⟨cs, hne, h, rfl⟩ := (canonPath_iff p).1 hp
  obtain ⟨cs', c, rfl⟩ := Lst.snoc_of_ne_nil cs hne
  -- the parent is "/" or `canon cs'`; once it is made, every ancestor is a directory
  have key : ∀ w1, mkdirP w (PurePath.parent (canon (cs' ++ [c]))) = .ok w1 →
      MkPost w w1 (PurePath.parent (canon (cs' ++ [c]))) ∧
        ∀ a ∈ ancestors (canon (cs' ++ [c])), w1.kind? a = some Node.dir := by
    intro w1 h1
    by_cases hc : cs' = []
    · subst hc
      simp only [List.nil_append] at *
      rw [parent_canon_single c h] at h1 ⊢
      exact ⟨mkdirP_root w w1 ht h1, anc_single h _⟩
    · rw [parent_canon_snoc cs' c hc h] at h1 ⊢
      have hp := mkdirP_canon _ ((canonPath_iff _).2 ⟨cs', hc, h.append_left, rfl⟩) w w1 ht h1
      exact ⟨hp, hp.anc_snoc hc h⟩
  unfold touchP at hm
  cases h1 : mkdirP w (PurePath.parent (canon (cs' ++ [c]))) with
  | error e => rw [h1] at hm; cases hm
  | ok w1 =>
    rw [h1] at hm
    simp only [← apply_ite Except.ok, Except.ok.injEq] at hm
    subst hm
    exact touchP_last_step w w1 _ _ (key w1 h1).1 (key w1 h1).2

/-! ### sidecar paths -/

theorem name_no_slash (p : Str) : '/' ∉ PurePath.name p := by
  unfold PurePath.name
  cases h : (Str.splitOn '/' p).getLast? with
  | none => simp
  | some c => exact Str.splitOn_not_mem '/' p c (List.mem_of_getLast? h)

theorem splitOn_withName (p nm : Str) (h : '/' ∉ nm) :
    Str.splitOn '/' (PurePath.withName p nm) = (Str.splitOn '/' p).dropLast ++ [nm] := by
  refine Str.split_join '/' _ (by simp) (fun q hq => ?_)
  rcases List.mem_append.mp hq with hq | hq
  · exact Str.splitOn_not_mem '/' p q (List.dropLast_subset _ hq)
  · rw [List.mem_singleton.mp hq]; exact h

theorem stem_no_slash (nm : Str) (h : '/' ∉ nm) : '/' ∉ stem nm :=
  fun hm => h (List.mem_of_mem_take hm)

theorem sidecarPath_eq (d : DCtx) (p : Str) :
    d.sidecarPath p = Str.joinWith '/'
      ((Str.splitOn '/' p).dropLast ++ [stem ('.' :: PurePath.name p) ++ d.ctx.cfg.dataSuffix]) := by
  have hs := splitOn_withName p ('.' :: PurePath.name p) (by simp [name_no_slash])
  have hn : PurePath.name (PurePath.withName p ('.' :: PurePath.name p)) = '.' :: PurePath.name p := by
    rw [PurePath.name, hs, List.getLast?_concat]; rfl
  rw [DCtx.sidecarPath, PurePath.withSuffix, hn, PurePath.withName, hs, List.dropLast_concat]
  rfl

theorem sidecarPath_eq_iff (d : DCtx) (p q : Str) :
    d.sidecarPath p = d.sidecarPath q ↔
      ((Str.splitOn '/' p).dropLast = (Str.splitOn '/' q).dropLast ∧
       stem ('.' :: PurePath.name p) = stem ('.' :: PurePath.name q)) := by
  have hfree : ∀ r : Str, ∀ c ∈ (Str.splitOn '/' r).dropLast ++ [stem ('.' :: PurePath.name r)], '/' ∉ c := by
    intro r c hc
    rcases List.mem_append.mp hc with hc | hc
    · exact Str.splitOn_not_mem '/' r c (List.dropLast_subset _ hc)
    · rw [List.mem_singleton.mp hc]; exact stem_no_slash _ (by simp [name_no_slash])
  rw [sidecarPath_eq, sidecarPath_eq, Str.joinWith_snoc_append, Str.joinWith_snoc_append]
  constructor
  · intro heq
    have := congrArg (Str.splitOn '/') (List.append_cancel_right heq)
    rw [Str.split_join '/' _ (by simp) (hfree p), Str.split_join '/' _ (by simp) (hfree q)] at this
    have h2 := List.append_inj' this rfl
    exact ⟨h2.1, by simpa using h2.2⟩
  · rintro ⟨h1, h2⟩
    rw [h1, h2]

/-! ### `writeData`, `create`, `update` -/

/-- `Lst.lookup_map_snd` for `fun p c => if p == sp then v else c`, stated with the pattern-matching
    lambda that `DCtx.writeData` writes for it, so that `rw` finds it there -/
theorem lookup_map_replace {α β : Type} [BEq α] [LawfulBEq α] (l : List (α × β)) (sp q : α) (v : β) :
    (l.map (fun (x : α × β) => match x with | (p, c) => if p == sp then (p, v) else (p, c))).lookup q =
      if (q == sp) = true then (l.lookup q).map (fun _ => v) else l.lookup q := by
  have : (fun (x : α × β) => match x with | (p, c) => if p == sp then (p, v) else (p, c)) =
      fun x => (x.1, if x.1 == sp then v else x.2) := by
    funext ⟨p, c⟩; dsimp only; split <;> rfl
  rw [this, Lst.lookup_map_snd (fun p c => if p == sp then v else c)]
  by_cases h : (q == sp) = true <;> simp [h]

theorem writeData_inv (d : DCtx) (w w' : World) (path : Str) (attrs : Dict)
    (h : d.writeData w path attrs = .ok w') :
    w'.nodes = w.nodes ∧
    (∃ prev, (w.sidecars.lookup (d.sidecarPath path) = some (.data prev) ∨
              (w.sidecars.lookup (d.sidecarPath path) = none ∧ prev = [])) ∧
       w'.sidecars.lookup (d.sidecarPath path) = some (.data (Dict.update prev attrs))) ∧
    (∀ q, q ≠ d.sidecarPath path → w'.sidecars.lookup q = w.sidecars.lookup q) := by
  unfold DCtx.writeData at h
  simp only at h
  split at h
  · cases h
  · next prev hprev =>
    cases h
    refine ⟨rfl, ⟨prev, Or.inl hprev, ?_⟩, ?_⟩
    · simp only
      rw [lookup_map_replace]
      simp [hprev]
    · intro q hq
      simp only
      rw [lookup_map_replace]
      simp [hq]
  · next hnone =>
    cases h
    refine ⟨rfl, ⟨[], Or.inr ⟨hnone, rfl⟩, ?_⟩, ?_⟩
    · simp [List.lookup_append, hnone]
    · intro q hq
      have : (q == d.sidecarPath path) = false := by simpa using hq
      simp [List.lookup_append, List.lookup_cons, this]

theorem create_inv (d : DCtx) (w w' : World) (config : Option Str) (sid : Str) (attrs : Option Dict)
    (b : Bool) (h : d.create w config sid attrs = .ok (w', b)) :
    ∃ x path w1, d.ctx.sidOfString sid = .ok x ∧ d.ctx.sidPath config x = .ok (some path) ∧
      w.pathExists path = false ∧
      (if !(PurePath.suffix path).isEmpty then w.touchP path else w.mkdirP path) = .ok w1 ∧
      (w' = w1 ∨ ∃ a, attrs = some a ∧ d.writeData w1 path a = .ok w') := by
  unfold DCtx.create at h
  split at h
  · cases h
  · next x hx =>
    split at h
    · cases h
    · cases h
    · next path hpth =>
      split at h
      · cases h
      · next he =>
        simp only at h
        split at h
        · cases h
        · next w1 h1 =>
          refine ⟨x, path, w1, hx, hpth, by simpa using he, h1, ?_⟩
          split at h
          · split at h
            · cases h; exact Or.inl rfl
            · next a _ =>
              cases h2 : d.writeData w1 path a with
              | error e => rw [h2] at h; cases h
              | ok w2 => rw [h2] at h; cases h; exact Or.inr ⟨a, rfl, h2⟩
          · cases h; exact Or.inl rfl

theorem update_inv (d : DCtx) (w w' : World) (config : Option Str) (sid : Str) (attrs : Dict)
    (b : Bool) (h : d.update w config sid attrs = .ok (w', b)) :
    ∃ x path, d.ctx.sidOfString sid = .ok x ∧ d.ctx.sidPath config x = .ok (some path) ∧
      w.pathExists path = true ∧ d.writeData w path attrs = .ok w' := by
  unfold DCtx.update at h
  split at h
  · cases h
  · next x hx =>
    split at h
    · cases h
    · cases h
    · next path hpth =>
      split at h
      · cases h
      · next he =>
        cases h2 : d.writeData w path attrs with
        | error e => rw [h2] at h; cases h
        | ok w2 => rw [h2] at h; cases h; exact ⟨x, path, hx, hpth, by simpa using he, h2⟩

theorem create_ext (d : DCtx) (w w' : World) (config : Option Str) (sid : Str) (attrs : Option Dict)
    (b : Bool) (h : d.create w config sid attrs = .ok (w', b)) (ht : TreeOk w)
    (hc : ∀ x path, d.ctx.sidOfString sid = .ok x → d.ctx.sidPath config x = .ok (some path) →
      CanonPath path) :
    ∃ x path, d.ctx.sidOfString sid = .ok x ∧ d.ctx.sidPath config x = .ok (some path) ∧
      Ext w w' ∧ w'.pathExists path = true := by
  obtain ⟨x, path, w1, hx, hpth, _, h1, hw⟩ := create_inv d w w' config sid attrs b h
  have hp := hc x path hx hpth
  have h1' : Ext w w1 ∧ w1.pathExists path = true := by
    split at h1
    · obtain ⟨e, he, _⟩ := touchP_canon path hp w w1 ht h1
      exact ⟨e, he⟩
    · obtain ⟨e, hk, _⟩ := mkdirP_canon path hp w w1 ht h1
      exact ⟨e, by rw [World.pathExists, hk]; rfl⟩
  refine ⟨x, _, hx, hpth, ?_⟩
  rcases hw with rfl | ⟨a, _, h2⟩
  · exact h1'
  · have e2 := Ext.of_nodes_eq h1'.1.tree (writeData_inv d w1 w' _ a h2).1
    exact ⟨h1'.1.trans e2, e2.pathExists h1'.2⟩

theorem update_nodes (d : DCtx) (w w' : World) (config : Option Str) (sid : Str) (attrs : Dict)
    (b : Bool) (h : d.update w config sid attrs = .ok (w', b)) : w'.nodes = w.nodes := by
  obtain ⟨_, path, _, _, _, h2⟩ := update_inv d w w' config sid attrs b h
  exact (writeData_inv d w w' path attrs h2).1

theorem runOps_ext (d : DCtx)
    (hcanon : ∀ config x path, d.ctx.sidPath config x = .ok (some path) → CanonPath path) :
    ∀ (ops : List WOp) (w : World), TreeOk w → Ext w (runOps d w ops)
  | [], _, ht => .refl ht
  | .create c s a :: rest, w, ht => by
    simp only [runOps]
    split
    · next w' b hc =>
      obtain ⟨_, _, _, _, e, _⟩ := create_ext d w w' c s a b hc ht (fun x path _ h => hcanon c x path h)
      exact e.trans (runOps_ext d hcanon rest w' e.tree)
    · exact runOps_ext d hcanon rest w ht
  | .update c s a :: rest, w, ht => by
    simp only [runOps]
    split
    · next w' b hc =>
      have e := Ext.of_nodes_eq ht (update_nodes d w w' c s a b hc)
      exact e.trans (runOps_ext d hcanon rest w' e.tree)
    · exact runOps_ext d hcanon rest w ht

/-! ### `getData` without an attribute list -/

/-- the dictionary `get_data` reads for the entity at `path`: the sidecar's, or `{}` -/
def stored (d : DCtx) (w : World) (path : Str) : Dict :=
  match w.sidecars.lookup (d.sidecarPath path) with
  | some (.data dd) => dd
  | _ => []

theorem stored_of_lookup (d : DCtx) (w : World) (path : Str) (dd : Dict)
    (h : w.sidecars.lookup (d.sidecarPath path) = some (.data dd)) : stored d w path = dd := by
  simp only [stored, h]

section getData

variable (d : DCtx) (w : World) (config : Option Str) (x : Sid) (path : Str)
  (hp : d.ctx.sidPath config x = .ok (some path))
include hp

theorem getData_nil_none :
    d.getData w config x [] .none = .ok ((stored d w path).map (fun p => (p.1, some p.2))) := by
  unfold DCtx.getData
  simp only [hp, List.isEmpty_nil, if_true]
  rfl

theorem getData_nil_str (hs : x.string ≠ []) :
    d.getData w config x [] .str =
      .ok ((Dict.set (stored d w path) ['s','i','d'] x.string).map (fun p => (p.1, some p.2))) := by
  unfold DCtx.getData
  simp only [hp, List.isEmpty_eq_false_iff.2 hs, List.isEmpty_nil, if_true, Bool.false_eq_true,
    if_false]
  rfl

end getData

/-! ### a fold that yields each item at most once -/

section memo
universe u v
variable {α : Type u} {β : Type v} [BEq α]

/-- one step of a scan that yields each item at most once: the second component `found` is the memo
    of the items already yielded -/
def memoStep (v : α → Except Err (Option β)) (acc : Except Err (List β × List α)) (p : α) :
    Except Err (List β × List α) :=
  match acc with
  | .error e => .error e
  | .ok (out, found) =>
    if found.contains p then .ok (out, found) else
    match v p with
    | .error e => .error e
    | .ok none => .ok (out, found)
    | .ok (some x) => .ok (out ++ [x], found ++ [p])

theorem memoStep_ok (v : α → Except Err (Option β)) (out : List β) (found : List α) (p : α) :
    memoStep v (.ok (out, found)) p =
      if found.contains p then .ok (out, found) else
      match v p with
      | .error e => .error e
      | .ok none => .ok (out, found)
      | .ok (some x) => .ok (out ++ [x], found ++ [p]) := rfl

theorem memoStep_skip (v : α → Except Err (Option β)) (p : α) (hv : v p = .ok none)
    (acc : Except Err (List β × List α)) : memoStep v acc p = acc := by
  rcases acc with e | ⟨out, found⟩
  · rfl
  · rw [memoStep_ok, hv]
    split <;> rfl

theorem memoFold_error (v : α → Except Err (Option β)) (l : List α) (e : Err) :
    l.foldl (memoStep v) (.error e) = .error e := by
  induction l with
  | nil => rfl
  | cons a l ih => exact ih

/-- `hs` lists, in order, the (item, result) pairs the fold newly yields: exactly the first
    occurrences in `l` of items outside `f0` with a `some` verdict -/
theorem memoFold_inv [LawfulBEq α] (v : α → Except Err (Option β)) (l : List α) (out0 : List β) (f0 : List α)
    (out : List β) (f : List α) (h : l.foldl (memoStep v) (.ok (out0, f0)) = .ok (out, f)) :
    ∃ hs : List (α × β), out = out0 ++ hs.map (·.2) ∧ f = f0 ++ hs.map (·.1) ∧
      (hs.map (·.1)).Nodup ∧ ∀ p x, (p, x) ∈ hs ↔ p ∈ l ∧ p ∉ f0 ∧ v p = .ok (some x) := by
  induction l generalizing out0 f0 with
  | nil => cases h; exact ⟨[], by simp, by simp, by simp, by simp⟩
  | cons q l ih =>
    rw [List.foldl_cons] at h
    -- the head changes nothing: it is in the memo, or the verdict on it is no result
    have skip : l.foldl (memoStep v) (.ok (out0, f0)) = .ok (out, f) →
        (q ∈ f0 ∨ v q = .ok none) → ∃ hs : List (α × β), out = out0 ++ hs.map (·.2) ∧
          f = f0 ++ hs.map (·.1) ∧ (hs.map (·.1)).Nodup ∧
          ∀ p x, (p, x) ∈ hs ↔ p ∈ q :: l ∧ p ∉ f0 ∧ v p = .ok (some x) := fun h hq => by
      obtain ⟨hs, h1, h2, h3, h4⟩ := ih out0 f0 h
      refine ⟨hs, h1, h2, h3, fun p x => ?_⟩
      rw [h4, List.mem_cons]
      refine ⟨fun ⟨a, b, c⟩ => ⟨Or.inr a, b, c⟩, fun ⟨a, b, c⟩ => ⟨a.resolve_left ?_, b, c⟩⟩
      rintro rfl
      rcases hq with hq | hq
      · exact b hq
      · rw [hq] at c; cases c
    rw [memoStep_ok] at h
    split at h
    · next hc => exact skip h (Or.inl (by simpa using hc))
    · next hc =>
      have hq : q ∉ f0 := by simpa using hc
      split at h
      · rw [memoFold_error] at h; cases h
      · next hv => exact skip h (Or.inr hv)
      · next x0 hv =>
        obtain ⟨hs, h1, h2, h3, h4⟩ := ih _ _ h
        refine ⟨(q, x0) :: hs, by simp [h1], by simp [h2], ?_, fun p x => ?_⟩
        · simp only [List.map_cons, List.nodup_cons, h3, and_true, List.mem_map, not_exists, not_and]
          rintro ⟨p, x⟩ hpx rfl
          exact ((h4 _ _).1 hpx).2.1 (by simp)
        · rw [List.mem_cons, h4, List.mem_cons]
          constructor
          · rintro (e | ⟨a, b, c⟩)
            · cases e; exact ⟨Or.inl rfl, hq, hv⟩
            · exact ⟨Or.inr a, fun hm => b (List.mem_append_left _ hm), c⟩
          · rintro ⟨a, b, c⟩
            by_cases hpq : p = q
            · subst hpq; rw [hv] at c; cases c; exact Or.inl rfl
            · exact Or.inr ⟨a.resolve_left hpq, by simp [b, hpq], c⟩

theorem memoFold_total (v : α → Except Err (Option β)) (l : List α)
    (hv : ∀ p ∈ l, ∃ o, v p = .ok o) (acc : List β × List α) :
    ∃ r, l.foldl (memoStep v) (.ok acc) = .ok r := by
  induction l generalizing acc with
  | nil => exact ⟨acc, rfl⟩
  | cons q l ih =>
    obtain ⟨o, ho⟩ := hv q (by simp)
    have hl := fun p hp => hv p (List.mem_cons_of_mem _ hp)
    obtain ⟨out, found⟩ := acc
    rw [List.foldl_cons, memoStep_ok, ho]
    split
    · exact ih hl _
    · cases o <;> exact ih hl _

theorem memoFold_congr (v v' : α → Except Err (Option β)) (l : List α) (h : ∀ p ∈ l, v p = v' p)
    (acc : Except Err (List β × List α)) : l.foldl (memoStep v) acc = l.foldl (memoStep v') acc := by
  induction l generalizing acc with
  | nil => rfl
  | cons p l ih =>
    rw [List.foldl_cons, List.foldl_cons, ih (fun q hq => h q (List.mem_cons_of_mem _ hq))]
    congr 1
    rcases acc with e | ⟨out, found⟩
    · rfl
    · rw [memoStep_ok, memoStep_ok, h p (by simp)]

end memo

/-! ### the star search: a memo scan of the globbed paths under `verdict` -/

/-- the fold step of `pathsStarGo` for the search Sid `s`, as the model writes it; the lemmas speak of
    `memoStep (verdict d config s)` instead (`starStep_eq_memoStep`) -/
def starStep (d : DCtx) (config : Option Str) (s : Sid)
    (acc : Except Err (List Sid × List Str)) (path : Str) : Except Err (List Sid × List Str) :=
  match acc with
  | .error e => .error e
  | .ok (out, found) =>
    if found.contains path then .ok (out, found) else
    match d.ctx.sidOfPath path config with
    | .error .spil => .ok (out, found)
    | .error e => .error e
    | .ok x =>
      if x.type != s.type then .ok (out, found)
      else if !x.typed then .ok (out, found)
      else
        match Find.globMatch d.ctx.env s.string x.string with
        | .error e => .error e
        | .ok false => .ok (out, found)
        | .ok true => .ok (out ++ [x], found ++ [path])

/-- `x` is what the repaired `star_search_simple` yields for the path `p` under the search Sid `s` -/
def Hit (d : DCtx) (config : Option Str) (s : Sid) (p : Str) (x : Sid) : Prop :=
  d.ctx.sidOfPath p config = .ok x ∧ x.typed = true ∧ x.type = s.type ∧
    Find.globMatch d.ctx.env s.string x.string = .ok true

/-- what `star_search_simple` makes of one globbed path for the search Sid `s`, as a function of
    what `Sid(path=…)` answered -/
def verdictOf (env : Env) (s : Sid) (r : Except Err Sid) : Except Err (Option Sid) :=
  match r with
  | .error .spil => .ok none
  | .error e => .error e
  | .ok x =>
    if x.type != s.type then .ok none
    else if !x.typed then .ok none
    else
      match Find.globMatch env s.string x.string with
      | .error e => .error e
      | .ok false => .ok none
      | .ok true => .ok (some x)

def verdict (d : DCtx) (config : Option Str) (s : Sid) (p : Str) : Except Err (Option Sid) :=
  verdictOf d.ctx.env s (d.ctx.sidOfPath p config)

theorem starStep_eq_memoStep (d : DCtx) (config : Option Str) (s : Sid) :
    starStep d config s = memoStep (verdict d config s) := by
  funext acc p
  rcases acc with e | ⟨out, found⟩
  · rfl
  · rw [memoStep_ok]
    unfold starStep verdict verdictOf
    simp only
    split
    · rfl
    · cases d.ctx.sidOfPath p config with
      | error e => cases e <;> rfl
      | ok x =>
        simp only
        split
        · rfl
        · split
          · rfl
          · cases Find.globMatch d.ctx.env s.string x.string with
            | error e => rfl
            | ok b => cases b <;> rfl

theorem pathsStarGo_cons (d : DCtx) (w : World) (config : Option Str) (s : Sid) (rest : List Sid)
    (searched : List (Str × Str × Str)) (found : List Str) :
    d.pathsStarGo w config (s :: rest) searched found =
      match d.ctx.sidPath config s with
      | .error e => .error e
      | .ok p =>
        let pattern := p.getD ['N','o','n','e']
        if searched.contains (s.type, pattern, s.string) then d.pathsStarGo w config rest searched found else
        match (w.glob pattern).foldl (memoStep (verdict d config s)) (.ok ([], found)) with
        | .error e => .error e
        | .ok (out, found) =>
          match d.pathsStarGo w config rest (searched ++ [(s.type, pattern, s.string)]) found with
          | .error e => .error e
          | .ok more => .ok (out ++ more) := by
  rw [← starStep_eq_memoStep]; rfl

theorem pathExists_of_mem_glob (w : World) (pat p : Str) (h : p ∈ w.glob pat) : w.pathExists p = true := by
  unfold glob at h
  have := (List.mem_filter.1 h).1
  exact (Lst.lookup_isSome_iff w.nodes p).2 this

theorem glob_add (w : World) (sc : List (Str × Sidecar)) (pat p : Str) (k : Node) :
    (World.glob ⟨w.nodes ++ [(p, k)], sc⟩ pat = w.glob pat ++ [p]) ∨
    (World.glob ⟨w.nodes ++ [(p, k)], sc⟩ pat = w.glob pat) := by
  unfold glob
  simp only [List.map_append, List.map_cons, List.map_nil, List.filter_append, List.filter_cons,
    List.filter_nil]
  split
  · left; rfl
  · right; simp

theorem glob_nodes_eq (w w' : World) (h : w'.nodes = w.nodes) (pat : Str) : w'.glob pat = w.glob pat := by
  unfold glob; rw [h]

theorem pathsStarGo_nodes_eq (d : DCtx) (w w' : World) (h : w'.nodes = w.nodes) (config : Option Str)
    (searches : List Sid) (searched : List (Str × Str × Str)) (found : List Str) :
    d.pathsStarGo w' config searches searched found = d.pathsStarGo w config searches searched found := by
  induction searches generalizing searched found with
  | nil => rfl
  | cons s rest ih =>
    rw [pathsStarGo_cons, pathsStarGo_cons]
    simp only [glob_nodes_eq w w' h, ih]

theorem verdict_some (d : DCtx) (config : Option Str) (s : Sid) (p : Str) (x : Sid) :
    verdict d config s p = .ok (some x) ↔ Hit d config s p x := by
  unfold verdict verdictOf Hit
  cases d.ctx.sidOfPath p config with
  | error e => cases e <;> simp
  | ok y =>
    simp only [Except.ok.injEq]
    constructor
    · intro h
      split at h
      · cases h
      · next ht =>
        split at h
        · cases h
        · next hy =>
          split at h
          · cases h
          · cases h
          · next hg => cases h; exact ⟨rfl, by simpa using hy, by simpa using ht, hg⟩
    · rintro ⟨rfl, hy, ht, hg⟩
      simp [hy, ht, hg]

theorem verdict_junk (d : DCtx) (config : Option Str) (s : Sid) (p : Str)
    (hj : (∃ x, d.ctx.sidOfPath p config = .ok x ∧ x.typed = false) ∨ d.ctx.sidOfPath p config = .error .spil) :
    verdict d config s p = .ok none := by
  unfold verdict verdictOf
  rcases hj with ⟨x, hx, hty⟩ | hj
  · rw [hx]
    simp only [hty, Bool.not_false, if_true]
    split <;> rfl
  · rw [hj]

theorem verdict_other (d : DCtx) (config : Option Str) (s : Sid) (p : Str) (x : Sid)
    (hx : d.ctx.sidOfPath p config = .ok x) (ht : s.type ≠ x.type) :
    verdict d config s p = .ok none := by
  have : (x.type != s.type) = true := by simpa using fun e => ht e.symm
  unfold verdict verdictOf
  rw [hx]
  simp only [this, if_true]

theorem pathsStarGo_add (d : DCtx) (w : World) (sc : List (Str × Sidecar)) (config : Option Str) (p : Str) (k : Node)
    (searches : List Sid) (hskip : ∀ s ∈ searches, verdict d config s p = .ok none)
    (searched : List (Str × Str × Str)) (found : List Str) :
    d.pathsStarGo ⟨w.nodes ++ [(p, k)], sc⟩ config searches searched found =
      d.pathsStarGo w config searches searched found := by
  induction searches generalizing searched found with
  | nil => rfl
  | cons s rest ih =>
    rw [pathsStarGo_cons, pathsStarGo_cons]
    have ih' := ih (fun s hs => hskip s (List.mem_cons_of_mem _ hs))
    have hg : ∀ pat init,
        (World.glob ⟨w.nodes ++ [(p, k)], sc⟩ pat).foldl (memoStep (verdict d config s)) init =
          (w.glob pat).foldl (memoStep (verdict d config s)) init := by
      intro pat init
      rcases glob_add w sc pat p k with h | h
      · rw [h, List.foldl_append]
        exact memoStep_skip _ p (hskip s (by simp)) _
      · rw [h]
    simp only [hg, ih']

theorem starFold_inv (d : DCtx) (config : Option Str) (s : Sid) (l : List Str) (out0 : List Sid)
    (f0 : List Str) (out : List Sid) (f : List Str)
    (h : l.foldl (memoStep (verdict d config s)) (.ok (out0, f0)) = .ok (out, f)) :
    ∀ x ∈ out, x ∈ out0 ∨ ∃ p ∈ l, Hit d config s p x := by
  obtain ⟨hs, rfl, _, _, hm⟩ := memoFold_inv _ _ _ _ _ _ h
  intro x hx
  rcases List.mem_append.1 hx with hx | hx
  · exact Or.inl hx
  · obtain ⟨⟨p, y⟩, hpy, rfl⟩ := List.mem_map.1 hx
    obtain ⟨h1, _, h3⟩ := (hm p y).1 hpy
    exact Or.inr ⟨p, h1, (verdict_some d config s p y).1 h3⟩

theorem pathsStarGo_inv (d : DCtx) (w : World) (config : Option Str) (searches : List Sid)
    (searched : List (Str × Str × Str)) (found : List Str) (r : List Sid)
    (h : d.pathsStarGo w config searches searched found = .ok r) :
    ∀ x ∈ r, ∃ s ∈ searches, ∃ p, w.pathExists p = true ∧ Hit d config s p x := by
  induction searches generalizing searched found r with
  | nil =>
    simp only [DCtx.pathsStarGo] at h
    cases h; simp
  | cons s rest ih =>
    rw [pathsStarGo_cons] at h
    split at h
    · cases h
    · next p hp =>
      simp only at h
      split at h
      · intro x hx
        obtain ⟨s', hs', hr⟩ := ih _ _ _ h x hx
        exact ⟨s', List.mem_cons_of_mem _ hs', hr⟩
      · split at h
        · cases h
        · next out f hfold =>
          split at h
          · cases h
          · next more hmore =>
            cases h
            intro x hx
            simp only [List.mem_append] at hx
            rcases hx with hx | hx
            · rcases starFold_inv d config s _ [] found out f hfold x hx with h0 | ⟨p, hp, hh⟩
              · cases h0
              · exact ⟨s, by simp, p, pathExists_of_mem_glob w _ p hp, hh⟩
            · obtain ⟨s', hs', hr⟩ := ih _ _ _ hmore x hx
              exact ⟨s', List.mem_cons_of_mem _ hs', hr⟩

/-- under any verdict that agrees with `verdict` on the globbed paths, e.g. one that reads the
    answers of `Sid(path=…)` from a table -/
theorem pathsStarSids_single (d : DCtx) (w : World) (config : Option Str) (s : Sid) (pat : Str)
    (hpat : d.ctx.sidPath config s = .ok (some pat)) (v : Str → Except Err (Option Sid))
    (hv : ∀ p ∈ w.glob pat, verdict d config s p = v p) :
    d.pathsStarSids w config [s] = ((w.glob pat).foldl (memoStep v) (.ok ([], []))).map (·.1) := by
  unfold DCtx.pathsStarSids
  rw [pathsStarGo_cons, hpat]
  simp only [Option.getD_some, List.contains_nil, Bool.false_eq_true, if_false]
  rw [memoFold_congr _ v _ hv]
  cases (w.glob pat).foldl (memoStep v) (.ok ([], [])) with
  | error e => rfl
  | ok r => simp [DCtx.pathsStarGo, Except.map]

/-! ### the path Finder does not read the data configuration -/

theorem pathsStarGo_data (c : Ctx) (dc dc' : DataConf) (w : World) (config : Option Str)
    (ss : List Sid) : ∀ searched found,
    DCtx.pathsStarGo ⟨c, dc⟩ w config ss searched found =
      DCtx.pathsStarGo ⟨c, dc'⟩ w config ss searched found := by
  induction ss with
  | nil => intro _ _; rfl
  | cons s rest ih =>
    intro searched found
    rw [pathsStarGo_cons, pathsStarGo_cons]
    simp only [ih]
    rfl

theorem pathsDoFind_data (c : Ctx) (dc dc' : DataConf) (w : World) (config : Option Str) :
    DCtx.pathsDoFind ⟨c, dc⟩ w config = DCtx.pathsDoFind ⟨c, dc'⟩ w config := by
  funext ss
  unfold DCtx.pathsDoFind DCtx.pathsStar DCtx.pathsStarSids
  simp only [pathsStarGo_data c dc dc']
  rfl

end FSL
