/-
  Spil.Lemmas.GlobSid — what links the field-wise glob of two well-typed Sids of the same type to
  the glob relation of C08 between their STRINGS (`C11.c11_string_glob`, `C11.c11_fields_glob`):
  the field-wise glob is the segment-wise relation `segGlob` on their '/'-segments.
-/
import Spil.Lemmas.Glob
import Spil.Lemmas.Template
import Spil.Spec.Sid

namespace GlobL

open Spec

/-- segment-wise reading of `fieldsGlob` on the field dictionaries of two strings -/
def segGlob (a b : Str) : Prop := a = ['*'] ∨ a = b

theorem segGlob.glob {a b : Str} (h : segGlob a b) (ha : '[' ∉ a) (hb : '/' ∉ b) : Glob a b := by
  rcases h with rfl | rfl
  · exact (glob_star_only b).2 hb
  · exact glob_refl a ha

theorem fieldsGlob_zip_iff : ∀ (K A B : List Str), A.length = K.length → B.length = K.length →
    (fieldsGlob (K.zip A) (K.zip B) ↔ All2 segGlob A B)
  | [], [], [], _, _ => ⟨fun _ => .nil, fun _ => trivial⟩
  | [], _ :: _, _, h, _ => by simp at h
  | [], [], _ :: _, _, h => by simp at h
  | _ :: _, [], _, h, _ => by simp at h
  | _ :: _, _ :: _, [], _, h => by simp at h
  | k :: K, a :: A, b :: B, ha, hb => by
    have ih := fieldsGlob_zip_iff K A B (by simpa using ha) (by simpa using hb)
    constructor
    · rintro ⟨_, h1, h2⟩
      exact .cons h1 (ih.1 h2)
    · rintro (_ | ⟨h1, h2⟩)
      exact ⟨rfl, h1, ih.2 h2⟩

/-- between two well-typed Sids of the same type the field-wise glob is the segment-wise one of
    their strings (their fields are the keys of the template zipped with the segments) -/
theorem fieldsGlob_iff_segs (env : Env) (ts : List (Str × Template)) (s e : Sid)
    (hs : wellTyped env ts s) (he : wellTyped env ts e) (hty : s.type = e.type) :
    fieldsGlob s.fields e.fields ↔
      All2 segGlob (Str.splitOn '/' s.string) (Str.splitOn '/' e.string) := by
  obtain ⟨t, ht, _, hacc, hf⟩ := hs
  obtain ⟨t', ht', _, hacc', hf'⟩ := he
  rw [hty, ht'] at ht
  cases ht
  rw [hf, hf']
  exact fieldsGlob_zip_iff _ _ _ (by rw [List.length_map]; exact SidL.acceptsSegs_length env _ _ hacc)
    (by rw [List.length_map]; exact SidL.acceptsSegs_length env _ _ hacc')

end GlobL
