/-
  Spil.Lemmas.Find — the glob relation `Spec.Glob` (inversion, concatenation, segment-wise reading) and
  `glob2re`; the list scan of `FindInList`; `groupHeads` on a sorted list keeps the first item of
  each key class, hence `sortedPick` lists the greatest entry of each group; the lemmas on `Spec.All2`.
-/
import Spil.Spec.Find
import Spil.Spec.Glob
import Spil.Lemmas.Lst
import Spil.Lemmas.Str
import Spil.Lemmas.ReRun

namespace Spec

/-! ### inversion of the glob relation -/

theorem glob_nil (s : Str) : Glob [] s ↔ s = [] := by
  constructor
  · intro h; cases h; rfl
  · rintro rfl; exact .nil

theorem glob_star_nil (p : Str) : Glob ('*' :: p) [] ↔ Glob p [] := by
  constructor
  · intro h
    cases h with
    | starSkip h => exact h
  · exact .starSkip

theorem glob_star_cons (p : Str) (c : Char) (s : Str) :
    Glob ('*' :: p) (c :: s) ↔ (c ≠ '/' ∧ Glob ('*' :: p) s) ∨ Glob p (c :: s) := by
  constructor
  · intro h
    cases h with
    | starSkip h => exact Or.inr h
    | starTake hc h => exact Or.inl ⟨hc, h⟩
    | lit h => contradiction
  · rintro (⟨hc, h⟩ | h)
    · exact .starTake hc h
    · exact .starSkip h

theorem glob_q (p s : Str) :
    Glob ('?' :: p) s ↔ ∃ c s', s = c :: s' ∧ c ≠ '/' ∧ Glob p s' := by
  constructor
  · intro h
    cases h with
    | one hc h => exact ⟨_, _, rfl, hc, h⟩
    | lit _ h => contradiction
  · rintro ⟨c, s', rfl, hc, h⟩
    exact .one hc h

theorem glob_lit_cons (a : Char) (p s : Str) (h1 : a ≠ '*') (h2 : a ≠ '?') (h3 : a ≠ '[') :
    Glob (a :: p) s ↔ ∃ s', s = a :: s' ∧ Glob p s' := by
  constructor
  · intro h
    cases h with
    | starSkip h => contradiction
    | starTake _ h => contradiction
    | one _ h => contradiction
    | lit _ _ _ h => exact ⟨_, rfl, h⟩
  · rintro ⟨s', rfl, h⟩
    exact .lit h1 h2 h3 h

/-! ### concatenation of patterns -/

theorem glob_append (a q s : Str) :
    Glob (a ++ q) s ↔ ∃ x y, s = x ++ y ∧ Glob a x ∧ Glob q y := by
  constructor
  · intro h
    generalize hP : a ++ q = P at h
    induction h generalizing a with
    | nil =>
      obtain ⟨rfl, rfl⟩ := List.append_eq_nil_iff.1 hP
      exact ⟨[], [], rfl, .nil, .nil⟩
    | @starSkip p s h ih =>
      rcases List.append_eq_cons_iff.1 hP with ⟨rfl, rfl⟩ | ⟨a', rfl, rfl⟩
      · exact ⟨[], _, rfl, .nil, .starSkip h⟩
      · obtain ⟨x, y, rfl, hx, hy⟩ := ih a' rfl
        exact ⟨x, y, rfl, .starSkip hx, hy⟩
    | @starTake p s c hc h ih =>
      rcases List.append_eq_cons_iff.1 hP with ⟨rfl, rfl⟩ | ⟨a', rfl, rfl⟩
      · exact ⟨[], _, rfl, .nil, .starTake hc h⟩
      · obtain ⟨x, y, rfl, hx, hy⟩ := ih ('*' :: a') rfl
        exact ⟨c :: x, y, rfl, .starTake hc hx, hy⟩
    | @one p s c hc h ih =>
      rcases List.append_eq_cons_iff.1 hP with ⟨rfl, rfl⟩ | ⟨a', rfl, rfl⟩
      · exact ⟨[], _, rfl, .nil, .one hc h⟩
      · obtain ⟨x, y, rfl, hx, hy⟩ := ih a' rfl
        exact ⟨c :: x, y, rfl, .one hc hx, hy⟩
    | @lit p s c h1 h2 h3 h ih =>
      rcases List.append_eq_cons_iff.1 hP with ⟨rfl, rfl⟩ | ⟨a', rfl, rfl⟩
      · exact ⟨[], _, rfl, .nil, .lit h1 h2 h3 h⟩
      · obtain ⟨x, y, rfl, hx, hy⟩ := ih a' rfl
        exact ⟨c :: x, y, rfl, .lit h1 h2 h3 hx, hy⟩
  · rintro ⟨x, y, rfl, hx, hy⟩
    induction hx with
    | nil => exact hy
    | starSkip _ ih => exact .starSkip ih
    | starTake hc _ ih => exact .starTake hc ih
    | one hc _ ih => exact .one hc ih
    | lit h1 h2 h3 _ ih => exact .lit h1 h2 h3 ih

/-! ### particular patterns -/

theorem glob_star_only (seg : Str) : Glob ['*'] seg ↔ '/' ∉ seg := by
  induction seg with
  | nil => simp [glob_star_nil, glob_nil]
  | cons c cs ih =>
    rw [glob_star_cons, ih, glob_nil]
    constructor
    · rintro (⟨hc, h⟩ | h)
      · intro hm
        rcases List.mem_cons.1 hm with hm | hm
        · exact hc hm.symm
        · exact h hm
      · cases h
    · intro h
      exact Or.inl ⟨fun hc => h (by rw [hc]; exact List.mem_cons_self), fun hm => h (List.mem_cons_of_mem _ hm)⟩

theorem glob_literal (pat item : Str) (hs : '*' ∉ pat) (hq : '?' ∉ pat) (hb : '[' ∉ pat) :
    Glob pat item ↔ item = pat := by
  constructor
  · intro h
    induction h with
    | nil => rfl
    | starSkip _ _ => simp at hs
    | starTake _ _ _ => simp at hs
    | one _ _ _ => simp at hq
    | lit _ _ _ _ ih =>
      simp only [List.mem_cons, not_or] at hs hq hb
      rw [ih hs.2 hq.2 hb.2]
  · intro h
    rw [h]
    clear h
    induction pat with
    | nil => exact .nil
    | cons c cs ih =>
      simp only [List.mem_cons, not_or] at hs hq hb
      exact .lit (fun e => hs.1 e.symm) (fun e => hq.1 e.symm) (fun e => hb.1 e.symm)
        (ih hs.2 hq.2 hb.2)

/-- `glob_literal` with the hypothesis character by character -/
theorem glob_literal_of_chars (pat item : Str) (h : ∀ ch ∈ pat, ch ≠ '*' ∧ ch ≠ '?' ∧ ch ≠ '[') :
    Glob pat item ↔ item = pat :=
  glob_literal pat item (fun m => (h _ m).1 rfl) (fun m => (h _ m).2.1 rfl) (fun m => (h _ m).2.2 rfl)

theorem glob_literal_slash_star (a y : Str) (ha : ∀ ch ∈ a, ch ≠ '*' ∧ ch ≠ '?' ∧ ch ≠ '[') :
    Glob (a ++ ['/', '*']) y ↔ ∃ seg, '/' ∉ seg ∧ y = a ++ '/' :: seg := by
  have hlit : ∀ x, Glob a x ↔ x = a := fun x => glob_literal_of_chars a x ha
  rw [glob_append]
  constructor
  · rintro ⟨x, z, rfl, hx, hz⟩
    obtain ⟨seg, rfl, hseg⟩ := (glob_lit_cons '/' ['*'] z (by decide) (by decide) (by decide)).1 hz
    exact ⟨seg, (glob_star_only seg).1 hseg, by rw [(hlit x).1 hx]⟩
  · rintro ⟨seg, hs, rfl⟩
    exact ⟨a, '/' :: seg, rfl, (hlit a).2 rfl, .lit (by decide) (by decide) (by decide) ((glob_star_only seg).2 hs)⟩

theorem glob_star_any (p s v : Str) (hv : '/' ∉ v) (h : Glob p s) : Glob ('*' :: p) (v ++ s) :=
  (glob_append ['*'] p _).2 ⟨v, s, rfl, (glob_star_only v).2 hv, h⟩

/-- every character but `[` matches itself, `*` and `?` included -/
theorem glob_cons_self (c : Char) (hc : c ≠ '[') {p s : Str} (h : Glob p s) :
    Glob (c :: p) (c :: s) := by
  by_cases h1 : c = '*'
  · subst h1
    exact .starTake (by decide) (.starSkip h)
  · by_cases h2 : c = '?'
    · subst h2
      exact .one (by decide) h
    · exact .lit h1 h2 hc h

theorem glob_refl (a : Str) (hb : '[' ∉ a) : Glob a a := by
  induction a with
  | nil => exact .nil
  | cons c a ih =>
    simp only [List.mem_cons, not_or] at hb
    exact glob_cons_self c (fun e => hb.1 e.symm) (ih hb.2)

/-! ### `All2` -/

theorem All2.length_eq {α β} {R : α → β → Prop} {a : List α} {b : List β} (h : All2 R a b) :
    a.length = b.length := by
  induction h with
  | nil => rfl
  | cons _ _ ih => simp [ih]

theorem All2.get {α β} {R : α → β → Prop} {a : List α} {b : List β} (h : All2 R a b) :
    ∀ (i : Nat) (x : α) (y : β), a[i]? = some x → b[i]? = some y → R x y := by
  induction h with
  | nil => intro i x y hx; simp at hx
  | cons h1 _ ih =>
    intro i x y hx hy
    cases i with
    | zero =>
      simp only [List.getElem?_cons_zero, Option.some.injEq] at hx hy
      subst hx; subst hy; exact h1
    | succ i =>
      simp only [List.getElem?_cons_succ] at hx hy
      exact ih i x y hx hy

theorem All2.mono {α β} {R S : α → β → Prop} {a : List α} {b : List β} (h : All2 R a b)
    (hrs : ∀ x ∈ a, ∀ y ∈ b, R x y → S x y) : All2 S a b := by
  induction h with
  | nil => exact .nil
  | cons h1 _ ih =>
    exact .cons (hrs _ (by simp) _ (by simp) h1)
      (ih (fun x hx y hy hr => hrs x (List.mem_cons_of_mem _ hx) y (List.mem_cons_of_mem _ hy) hr))

theorem All2.refl {α} {R : α → α → Prop} (l : List α) (h : ∀ a ∈ l, R a a) : All2 R l l := by
  induction l with
  | nil => exact .nil
  | cons a l ih => exact .cons (h a (by simp)) (ih (fun x hx => h x (List.mem_cons_of_mem _ hx)))

theorem all2_iff_zip {α β} (f : α → β → Bool) : ∀ (a : List α) (b : List β),
    All2 (fun x y => f x y = true) a b ↔
      a.length = b.length ∧ (a.zip b).all (fun p => f p.1 p.2) = true
  | [], [] => ⟨fun _ => ⟨rfl, rfl⟩, fun _ => .nil⟩
  | [], _ :: _ => ⟨fun h => (nomatch h), fun h => (nomatch h.1)⟩
  | _ :: _, [] => ⟨fun h => (nomatch h), fun h => (nomatch h.1)⟩
  | x :: a, y :: b => by
    simp only [List.length_cons, Nat.add_right_cancel_iff, List.zip_cons_cons, List.all_cons,
      Bool.and_eq_true]
    constructor
    · rintro (_ | ⟨h1, h2⟩)
      exact ⟨((all2_iff_zip f a b).1 h2).1, h1, ((all2_iff_zip f a b).1 h2).2⟩
    · rintro ⟨hl, h1, h2⟩
      exact .cons h1 ((all2_iff_zip f a b).2 ⟨hl, h2⟩)

/-! ### the glob relation, segment by segment -/

/-- a relation lifts from the segments of `a`, `b` to those of `u ++ a`, `v ++ b` for '/'-free `u`, `v`
    when it is closed under prepending them -/
theorem All2.splitOn_prepend {R : Str → Str → Prop} {a b : Str} (u v : Str) (hu : '/' ∉ u) (hv : '/' ∉ v)
    (hR : ∀ x y, R x y → R (u ++ x) (v ++ y))
    (h : All2 R (Str.splitOn '/' a) (Str.splitOn '/' b)) :
    All2 R (Str.splitOn '/' (u ++ a)) (Str.splitOn '/' (v ++ b)) := by
  rw [Str.splitOn_append_nosep '/' u a hu, Str.splitOn_append_nosep '/' v b hv]
  rw [Str.splitOn_eq_cons '/' a, Str.splitOn_eq_cons '/' b] at h
  cases h with
  | cons h1 h2 => exact .cons (hR _ _ h1) h2

theorem Glob.comps {a b : Str} (h : Glob a b) :
    All2 Glob (Str.splitOn '/' a) (Str.splitOn '/' b) := by
  induction h with
  | nil => exact .cons .nil .nil
  | starSkip _ ih => exact ih.splitOn_prepend ['*'] [] (by decide) (by simp) fun _ _ => .starSkip
  | @starTake p s c hc _ ih =>
    rw [Str.splitOn_cons '/' c s, if_neg hc]
    rw [Str.splitOn_eq_cons '/' s, Str.splitOn_cons '/' '*' p, if_neg (by decide)] at ih
    rw [Str.splitOn_cons '/' '*' p, if_neg (by decide)]
    cases ih with
    | cons h1 h2 => exact .cons (.starTake hc h1) h2
  | @one p s c hc _ ih =>
    exact ih.splitOn_prepend ['?'] [c] (by decide) (by simpa using Ne.symm hc) fun _ _ => .one hc
  | @lit p s a h1 h2 h3 _ ih =>
    by_cases ha : a = '/'
    · rw [Str.splitOn_cons, Str.splitOn_cons, if_pos ha, if_pos ha]; exact .cons .nil ih
    · exact ih.splitOn_prepend [a] [a] (by simpa using Ne.symm ha) (by simpa using Ne.symm ha)
        fun _ _ => .lit h1 h2 h3
theorem Glob.join {as bs : List Str} (h : All2 Glob as bs) :
    Glob (Str.joinWith '/' as) (Str.joinWith '/' bs) := by
  induction h with
  | nil => exact .nil
  | @cons a b as bs h1 h2 ih =>
    cases h2 with
    | nil => simpa [Str.joinWith] using h1
    | cons h3 h4 =>
      simp only [Str.joinWith] at ih ⊢
      exact (glob_append _ _ _).2 ⟨_, _, rfl, h1, .lit (by decide) (by decide) (by decide) ih⟩

theorem glob_iff_comps (a b : Str) : Glob a b ↔ All2 Glob (Str.splitOn '/' a) (Str.splitOn '/' b) :=
  ⟨Glob.comps, fun h => by have := Glob.join h; rwa [Str.join_split, Str.join_split] at this⟩

end Spec

namespace GlobL

open Spec

-- end results of their own under these names; the other `All2` lemmas are in `Spec`, where dot
-- notation finds them
theorem All2.append {α β} {R : α → β → Prop} {a c : List α} {b d : List β} (h : All2 R a b)
    (h' : All2 R c d) : All2 R (a ++ c) (b ++ d) := by
  induction h with
  | nil => exact h'
  | cons h1 _ ih => exact .cons h1 ih

theorem All2.filter {α β} {R : α → β → Prop} (p : α → Bool) (q : β → Bool)
    (hpq : ∀ a b, R a b → p a = q b) {a : List α} {b : List β} (h : All2 R a b) :
    All2 R (a.filter p) (b.filter q) := by
  induction h with
  | nil => exact .nil
  | @cons x y as bs h1 _ ih =>
    simp only [List.filter_cons]
    rw [hpq x y h1]
    split
    · exact .cons h1 ih
    · exact ih

theorem Glob.append {a b c d : Str} (h : Glob a b) (h' : Glob c d) : Glob (a ++ c) (b ++ d) :=
  (glob_append a c _).2 ⟨b, d, rfl, h, h'⟩

end GlobL

namespace Find

open Spec

/-! ### `glob2re` -/

theorem glob2re_cons (c : Char) (cs : Str) (items : List Re) (hc : c ≠ '[')
    (hi : glob2re cs = some items) :
    glob2re (c :: cs) = some ((if c = '*' then Re.star .notSlash else if c = '?' then
      Re.cls .notSlash else Re.cls (.lit c)) :: items) := by
  have hc' : (c == '[') = false := by simpa using hc
  simp only [glob2re, hc', hi]
  by_cases h1 : c = '*'
  · simp [h1]
  · by_cases h2 : c = '?'
    · subst h2; simp
    · simp [h1, h2]

theorem glob2re_isSome (pat : Str) (hb : '[' ∉ pat) : ∃ items, glob2re pat = some items := by
  induction pat with
  | nil => exact ⟨[], rfl⟩
  | cons c cs ih =>
    simp only [List.mem_cons, not_or] at hb
    obtain ⟨items, hi⟩ := ih hb.2
    exact ⟨_, glob2re_cons c cs items (fun e => hb.1 e.symm) hi⟩

theorem glob2re_none_of_mem (a : Str) (h : '[' ∈ a) : glob2re a = none := by
  induction a with
  | nil => simp at h
  | cons c cs ih =>
    by_cases hc : c = '['
    · subst hc; simp [glob2re]
    · have hcs : '[' ∈ cs := (List.mem_cons.1 h).resolve_left (fun e => hc e.symm)
      have : (c == '[') = false := by simpa using hc
      simp [glob2re, this, ih hcs]

theorem globB_of_some (e : Env) (pat item : Str) (items : List Re) (hi : glob2re pat = some items) :
    globB e pat item = (Re.mkSeq items).matchZ e item := by
  simp [globB, hi]

theorem globMatch_ok (e : Env) (pat item : Str) (hb : '[' ∉ pat) :
    globMatch e pat item = .ok (globB e pat item) := by
  obtain ⟨items, hi⟩ := glob2re_isSome pat hb
  simp [globMatch, globB, hi]

/-- the regex `glob2re` makes of one pattern character accepts what that character globs -/
theorem globTok_iff_glob (e : Env) (c : Char) (hc : c ≠ '[') (x : Str) :
    (if c = '*' then Re.star .notSlash else if c = '?' then Re.cls .notSlash
      else Re.cls (.lit c)).matchZ e x = true ↔ Glob [c] x := by
  by_cases h1 : c = '*'
  · subst h1
    rw [if_pos rfl, matchZ_star, glob_star_only]
    simp only [Cls.test, bne_iff_ne, ne_eq]
    exact ⟨fun h hm => h _ hm rfl, fun h ch hch e => h (e ▸ hch)⟩
  · by_cases h2 : c = '?'
    · subst h2
      rw [if_neg h1, if_pos rfl, matchZ_cls, glob_q]
      simp only [Cls.test, bne_iff_ne, ne_eq, glob_nil]
      exact ⟨fun ⟨ch, hx, hne⟩ => ⟨ch, [], hx, hne, rfl⟩, fun ⟨ch, _, hx, hne, hnil⟩ => ⟨ch, hnil ▸ hx, hne⟩⟩
    · rw [if_neg h1, if_neg h2, matchZ_cls, glob_literal [c] x (by simpa using Ne.symm h1)
        (by simpa using Ne.symm h2) (by simpa using Ne.symm hc)]
      simp only [Cls.test, beq_iff_eq]
      exact ⟨fun ⟨ch, hx, e⟩ => e ▸ hx, fun hx => ⟨c, hx, rfl⟩⟩

/-- both sides split the item into what the first pattern character takes and the rest -/
theorem globB_iff_glob (e : Env) (pat : Str) (hb : '[' ∉ pat) :
    ∀ item, globB e pat item = true ↔ Glob pat item := by
  induction pat with
  | nil =>
    intro item
    rw [globB_of_some e [] item [] rfl, glob_nil]
    exact matchZ_eps e item
  | cons c cs ih =>
    simp only [List.mem_cons, not_or] at hb
    have hc : c ≠ '[' := fun e => hb.1 e.symm
    obtain ⟨items, hi⟩ := glob2re_isSome cs hb.2
    intro item
    rw [globB_of_some e _ item _ (glob2re_cons c cs items hc hi), matchZ_mkSeq_cons,
      show c :: cs = [c] ++ cs from rfl, glob_append]
    simp only [globTok_iff_glob e c hc, ← globB_of_some e cs _ items hi, ih hb.2]

theorem glob_of_globB (e : Env) (pat item : Str) (h : globB e pat item = true) : Glob pat item :=
  (globB_iff_glob e pat (fun hm => by simp [globB, glob2re_none_of_mem pat hm] at h) item).1 h

/-- `re.match(glob2re(pat), item)` does not leave the model for a pattern without `[` -/
theorem globMatch_iff (e : Env) (pat item : Str) (hb : '[' ∉ pat) :
    globMatch e pat item = .ok true ↔ Glob pat item := by
  rw [globMatch_ok e pat item hb, ← globB_iff_glob e pat hb item]
  exact ⟨Except.ok.inj, congrArg _⟩

/-! ### `scanList` / `starSearchGo` -/

/-- first occurrences of the items of `xs` that are not in `done` -/
def fresh (done xs : List Str) : List Str :=
  (Lst.dedupBy (· == ·) xs).filter (fun x => !done.contains x)

theorem fresh_nil_left (xs : List Str) : fresh [] xs = Lst.dedupBy (· == ·) xs := by
  simp only [fresh, List.contains_nil, Bool.not_false]
  exact List.filter_eq_self.2 (fun _ _ => rfl)

theorem fresh_nil_right (done : List Str) : fresh done [] = [] := by
  simp [fresh, Lst.dedupBy]

theorem fresh_cons_new (done : List Str) (x : Str) (xs : List Str) (hx : done.contains x = false) :
    fresh done (x :: xs) = x :: fresh (done ++ [x]) xs := by
  simp only [fresh, Lst.dedupBy, List.filter_cons, hx, Bool.not_false, if_true, List.filter_filter,
    List.cons.injEq, true_and]
  apply List.filter_congr
  intro y _
  simp only [List.contains_append, List.contains_cons, List.contains_nil, Bool.or_false, Bool.not_or]
  rw [Bool.beq_comm (a := y)]

theorem fresh_cons_old (done : List Str) (x : Str) (xs : List Str) (hx : done.contains x = true) :
    fresh done (x :: xs) = fresh done xs := by
  simp only [fresh, Lst.dedupBy, List.filter_cons, hx, Bool.not_true, List.filter_filter]
  simp only [Bool.false_eq_true, if_false]
  apply List.filter_congr
  intro y _
  by_cases hy : x = y
  · subst hy
    have : x ∈ done := by simpa using hx
    simp [this]
  · have : (x == y) = false := by simpa using hy
    simp [this]

theorem fresh_append (done a b : List Str) :
    fresh done (a ++ b) = fresh done a ++ fresh (done ++ fresh done a) b := by
  simp only [fresh, Lst.dedupBy_append, List.filter_append, List.filter_filter]
  congr 1
  apply List.filter_congr
  intro y _
  simp only [List.contains_append]
  cases hd : done.contains y with
  | true => simp
  | false =>
    simp only [Bool.not_false, Bool.true_and, Bool.false_or]
    congr 1
    rw [Bool.eq_iff_iff]
    simp only [List.contains_iff_mem, List.mem_filter, Lst.mem_dedupBy]
    have : ¬ y ∈ done := by simpa using hd
    simp [this]

theorem scanList_eq (e : Env) (re : Re) (l done : List Str) :
    scanList e re false l done =
      (fresh done (l.filter (re.matchZ e)), done ++ fresh done (l.filter (re.matchZ e))) := by
  induction l generalizing done with
  | nil => simp [scanList, fresh_nil_right]
  | cons item rest ih =>
    simp only [scanList]
    cases hm : re.matchZ e item with
    | false => simp [hm, ih]
    | true =>
      cases hd : done.contains item with
      | true => simp [hm, ih, fresh_cons_old _ _ _ hd]
      | false =>
        simp [hm, ih, fresh_cons_new _ _ _ hd]

theorem starSearchGo_eq (e : Env) (l : List Str) (pats : List Str) (hb : ∀ p ∈ pats, '[' ∉ p) :
    ∀ done, starSearchGo e ⟨l, false⟩ pats done =
      .ok (fresh done (pats.flatMap (fun p => l.filter (fun x => globB e p x)))) := by
  induction pats with
  | nil => intro done; simp [starSearchGo, fresh_nil_right]
  | cons p ps ih =>
    intro done
    obtain ⟨items, hi⟩ := glob2re_isSome p (hb p (by simp))
    have hg : (fun x => globB e p x) = (Re.mkSeq items).matchZ e := by
      funext x; exact globB_of_some e p x items hi
    simp only [starSearchGo, hi, scanList_eq, List.flatMap_cons, hg]
    rw [ih (fun q hq => hb q (List.mem_cons_of_mem _ hq)), fresh_append]

/-! ### `groupHeads` -/

/-- items of `l` whose key differs from their predecessor's (`prev` before the first) -/
def headsAfter (key : Str → List Str) : Str → List Str → List Str
  | _, [] => []
  | prev, y :: rest =>
    if key prev == key y then headsAfter key y rest else y :: headsAfter key y rest

theorem groupHeads_cons (key : Str → List Str) (x : Str) (l : List Str) :
    groupHeads key (x :: l) = x :: headsAfter key x l := by
  induction l generalizing x with
  | nil => simp [groupHeads, headsAfter]
  | cons y rest ih =>
    simp only [groupHeads, headsAfter, ih y]
    split <;> rfl

theorem headsAfter_sublist (key : Str → List Str) (prev : Str) (l : List Str) :
    (headsAfter key prev l).Sublist l := by
  induction l generalizing prev with
  | nil => simp [headsAfter]
  | cons y rest ih =>
    simp only [headsAfter]; split
    · exact (ih y).trans (List.sublist_cons_self _ _)
    · exact (ih y).cons_cons _

theorem groupHeads_sublist (key : Str → List Str) (l : List Str) : (groupHeads key l).Sublist l := by
  cases l with
  | nil => simp [groupHeads]
  | cons x l => rw [groupHeads_cons]; exact (headsAfter_sublist key x l).cons_cons _

section first

variable (key : Str → List Str) (R : Str → Str → Prop)

/-- `y` is the first item of its key class in a list sorted by `R` -/
def First (l : List Str) (y : Str) : Prop := y ∈ l ∧ ∀ z ∈ l, key z = key y → z = y ∨ R y z

theorem first_cons (asymm : ∀ a b, R a b → ¬ R b a) (a : Str) (l : List Str)
    (ha : ∀ z ∈ l, R a z) (y : Str) :
    First key R (a :: l) y ↔ y = a ∨ (key y ≠ key a ∧ First key R l y) := by
  constructor
  · rintro ⟨hy, H⟩
    rcases List.mem_cons.1 hy with rfl | hy
    · exact Or.inl rfl
    · refine Or.inr ⟨fun e => ?_, hy, fun z hz => H z (List.mem_cons_of_mem _ hz)⟩
      -- `a` comes before `y`, so `y` is not the first of the class of `a`
      rcases H a (by simp) e.symm with e' | hr
      · exact asymm a y (ha y hy) (e' ▸ ha y hy)
      · exact asymm a y (ha y hy) hr
  · rintro (rfl | ⟨hk, hy, H⟩)
    · refine ⟨by simp, fun z hz _ => ?_⟩
      rcases List.mem_cons.1 hz with rfl | hz
      · exact Or.inl rfl
      · exact Or.inr (ha z hz)
    · refine ⟨List.mem_cons_of_mem _ hy, fun z hz hkz => ?_⟩
      rcases List.mem_cons.1 hz with rfl | hz
      · exact absurd hkz.symm hk
      · exact H z hz hkz

theorem exists_first (asymm : ∀ a b, R a b → ¬ R b a) (l : List Str) (hp : l.Pairwise R) (x : Str)
    (hx : x ∈ l) : ∃ r, First key R l r ∧ key r = key x := by
  induction l with
  | nil => cases hx
  | cons a l ih =>
    rw [List.pairwise_cons] at hp
    by_cases hk : key a = key x
    · exact ⟨a, (first_cons key R asymm a l hp.1 a).2 (Or.inl rfl), hk⟩
    · obtain ⟨r, hr, hkr⟩ := ih hp.2 ((List.mem_cons.1 hx).resolve_left (fun e => hk (e ▸ rfl)))
      exact ⟨r, (first_cons key R asymm a l hp.1 r).2 (Or.inr ⟨fun e => hk (e ▸ hkr), hr⟩), hkr⟩

/-- when key classes are contiguous (`between`), `headsAfter` keeps the first item of each class
    other than the class of `prev` -/
theorem mem_headsAfter (asymm : ∀ a b, R a b → ¬ R b a)
    (between : ∀ a b c, R a b → R b c → key a = key c → key b = key a)
    (prev : Str) (l : List Str) (hp : (prev :: l).Pairwise R) (y : Str) :
    y ∈ headsAfter key prev l ↔ key y ≠ key prev ∧ First key R l y := by
  induction l generalizing prev with
  | nil => simp [headsAfter, First]
  | cons a l ih =>
    rw [List.pairwise_cons] at hp
    have hpa := (List.pairwise_cons.1 hp.2).1
    rw [first_cons key R asymm a l hpa]
    by_cases hk : key prev = key a
    · have hgh : headsAfter key prev (a :: l) = headsAfter key a l := by simp [headsAfter, hk]
      rw [hgh, ih a hp.2, hk]
      constructor
      · exact fun h => ⟨h.1, Or.inr h⟩
      · rintro ⟨h1, rfl | h2⟩
        · exact absurd rfl h1
        · exact h2
    · have hgh : headsAfter key prev (a :: l) = a :: headsAfter key a l := by simp [headsAfter, hk]
      rw [hgh, List.mem_cons, ih a hp.2]
      constructor
      · rintro (rfl | h)
        · exact ⟨fun e => hk e.symm, Or.inl rfl⟩
        · exact ⟨fun e => hk (between prev a y (hp.1 a (by simp)) (hpa y h.2.1) e.symm).symm, Or.inr h⟩
      · exact fun h => h.2

theorem mem_groupHeads (asymm : ∀ a b, R a b → ¬ R b a)
    (between : ∀ a b c, R a b → R b c → key a = key c → key b = key a)
    (l : List Str) (hp : l.Pairwise R) (y : Str) : y ∈ groupHeads key l ↔ First key R l y := by
  cases l with
  | nil => simp [groupHeads, First]
  | cons a l =>
    rw [groupHeads_cons, List.mem_cons, mem_headsAfter key R asymm between a l hp,
      first_cons key R asymm a l (List.pairwise_cons.1 hp).1]

end first

/-! ### `sortedPick` -/

/-- the order `sorted(..., key=lambda x: x.split('/'), reverse=True)` sorts by -/
def segGt (a b : Str) : Bool := Str.ltList (Str.splitOn '/' b) (Str.splitOn '/' a)

theorem segGt_sto : Lst.STO segGt :=
  Str.ltList_sto.comapRev (Str.splitOn '/') (Str.splitOn_inj '/')

/-- the sorted, duplicate-free list `sortedPick` groups -/
def sortedFounds (founds : List Str) : List Str :=
  Lst.sortBy segGt (Lst.dedupBy (· == ·) founds)

theorem sortedPick_eq (index : Nat) (founds : List Str) :
    sortedPick index founds = groupHeads (groupKey index) (sortedFounds founds) := rfl

theorem mem_sortedFounds (founds : List Str) (x : Str) : x ∈ sortedFounds founds ↔ x ∈ founds := by
  simp [sortedFounds, Lst.mem_sortBy, Lst.mem_dedupBy]

theorem sortedFounds_pairwise (founds : List Str) :
    (sortedFounds founds).Pairwise (fun a b => segGt a b = true) :=
  Lst.sortBy_pairwise segGt_sto _ (Lst.dedupBy_nodup founds)

theorem groupKey_between (index : Nat) (a b c : Str) (hab : segGt a b = true)
    (hbc : segGt b c = true) (hac : groupKey index a = groupKey index c) :
    groupKey index b = groupKey index a := by
  apply Str.ltList_take_between index _ _ _ _ _ hac
  · exact Str.ltList_sto.asymm hab
  · exact Str.ltList_sto.asymm hbc

theorem sortedPick_pairwise (index : Nat) (founds : List Str) :
    (sortedPick index founds).Pairwise (fun a b => segGt a b = true) :=
  (sortedFounds_pairwise founds).sublist (groupHeads_sublist _ _)

theorem segGe_iff (y z : Str) : segGe y z ↔ z = y ∨ segGt y z = true := by
  unfold segGe segGt
  constructor
  · intro h
    cases hzy : Str.ltList (Str.splitOn '/' z) (Str.splitOn '/' y) with
    | true => exact Or.inr rfl
    | false => exact Or.inl (Str.splitOn_inj '/' z y (Str.ltList_sto.tri _ _ hzy h))
  · rintro (rfl | h)
    · exact Str.ltList_sto.irrefl _
    · exact Str.ltList_sto.asymm h

theorem segGe_antisymm (a b : Str) (h1 : segGe a b) (h2 : segGe b a) : a = b :=
  Str.splitOn_inj '/' a b (Str.ltList_sto.tri _ _ h1 h2)

theorem segGe_of_segGt_of_segGe {a b c : Str} (h1 : segGt a b = true) (h2 : segGe b c) :
    segGe a c := by
  unfold segGe
  cases h : Str.ltList (Str.splitOn '/' a) (Str.splitOn '/' c) with
  | false => rfl
  | true => exact absurd (Str.ltList_sto.trans _ _ _ h1 h) (by rw [h2]; exact Bool.false_ne_true)

theorem segGt_asymm (a b : Str) (h : segGt a b = true) : ¬ segGt b a = true := by
  rw [segGt_sto.asymm h]; exact Bool.false_ne_true

theorem mem_sortedPick_first (index : Nat) (founds : List Str) (y : Str) :
    y ∈ sortedPick index founds ↔
      First (groupKey index) (fun a b => segGt a b = true) (sortedFounds founds) y := by
  rw [sortedPick_eq]
  exact mem_groupHeads (groupKey index) _ segGt_asymm (groupKey_between index) _
    (sortedFounds_pairwise founds) y

theorem mem_sortedPick (index : Nat) (founds : List Str) (y : Str) :
    y ∈ sortedPick index founds ↔
      y ∈ founds ∧ ∀ z ∈ founds, groupKey index z = groupKey index y → segGe y z := by
  simp only [mem_sortedPick_first, First, mem_sortedFounds, segGe_iff]

theorem sortedPick_nodup (index : Nat) (founds : List Str) : (sortedPick index founds).Nodup :=
  Lst.pairwise_nodup segGt_sto _ (sortedPick_pairwise index founds)

theorem sortedPick_key_inj (index : Nat) (founds : List Str) :
    ∀ r₁ ∈ sortedPick index founds, ∀ r₂ ∈ sortedPick index founds,
      groupKey index r₁ = groupKey index r₂ → r₁ = r₂ := by
  intro r₁ h₁ r₂ h₂ hkey
  -- each is at least the other
  obtain ⟨m₁, g₁⟩ := (mem_sortedPick index founds r₁).1 h₁
  obtain ⟨m₂, g₂⟩ := (mem_sortedPick index founds r₂).1 h₂
  exact segGe_antisymm r₁ r₂ (g₁ r₂ m₂ hkey.symm) (g₂ r₁ m₁ hkey)

theorem sortedPick_repr (index : Nat) (founds : List Str) :
    ∀ x ∈ founds, ∃ r ∈ sortedPick index founds, groupKey index r = groupKey index x ∧ segGe r x := by
  intro x hx
  have hx' := (mem_sortedFounds founds x).2 hx
  obtain ⟨r, hr, hkr⟩ :=
    exists_first (groupKey index) _ segGt_asymm _ (sortedFounds_pairwise founds) x hx'
  exact ⟨r, (mem_sortedPick_first index founds r).2 hr, hkr,
    (segGe_iff r x).2 (hr.2 x hx' hkr.symm)⟩

theorem sortedPick_congr (index : Nat) (f₁ f₂ : List Str) (h : ∀ x, x ∈ f₁ ↔ x ∈ f₂) :
    sortedPick index f₁ = sortedPick index f₂ :=
  Lst.pairwise_ext segGt_sto _ _ (sortedPick_pairwise index f₁) (sortedPick_pairwise index f₂)
    (fun x => by simp only [mem_sortedPick, h])

end Find

/-! ### `FindInList.find` -/

theorem Ctx.findInList_of_searches (c : Ctx) (f : Find.ListFinder) (search : Str) (S : List Sid)
    (h : c.findSearches search = .ok S) :
    c.findInList f search = c.doFindGlob (Find.starSearch c.env f) S := by
  simp only [Ctx.findInList, h]

theorem Ctx.doFindGlob_star (c : Ctx) (star : List Str → Except Err (List Str)) (S : List Sid)
    (hne : S ≠ []) (hgt : ∀ x ∈ S, '>' ∉ x.string) :
    c.doFindGlob star S = star (S.map (·.string)) := by
  have hany : S.any (fun x => Str.hasChar '>' x.string) = false :=
    List.any_eq_false.2 fun x hx => by simpa using (Str.hasChar_eq_false_iff '>' x.string).2 (hgt x hx)
  simp only [Ctx.doFindGlob, List.isEmpty_eq_false_iff.2 hne, hany, Bool.false_eq_true, if_false]

/-- a search string whose Sid `Finder.find` does not shortcut is unfolded -/
theorem Ctx.findSearches_unfolds (c : Ctx) (search : Str) (sid : Sid) (hs : c.sidOfString search = .ok sid)
    (hns : (sid.typed && !c.isSearch sid && !c.isAliasSearch sid && !Str.hasChar '?' sid.string) = false) :
    c.findSearches search = c.unfoldSearch search false false := by
  unfold Ctx.findSearches
  rw [hs]
  simp only [hns, Bool.false_eq_true, if_false]
