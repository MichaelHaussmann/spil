/-
  Spil.Lemmas.DetParse — a conform path template reads the string it rendered back to exactly the
  rendered values.
-/
import Spil.Lemmas.DetDict

namespace Det

open Spec

theorem countOk_iff (T : Template) : ∀ t : Template,
    t.all (keyCountOk T) = true ↔ ∀ k ∈ phKeys t, Template.countKey k T < 1000
  | [] => by simp [phKeys]
  | .lit s :: rest => by
    simp only [List.all_cons, keyCountOk, Bool.true_and, phKeys]
    exact countOk_iff T rest
  | .ph k ex :: rest => by
    simp only [List.all_cons, keyCountOk, Bool.and_eq_true, decide_eq_true_eq, phKeys,
      List.mem_cons, forall_eq_or_imp, countOk_iff T rest]

theorem pathTplOk_iff (e : Env) (t : Template) :
    pathTplOk e t = true ↔ ∃ fl, flatAtoms t = some fl ∧ (segsOf fl).all (segDet e) = true ∧
      fl.all (atomOk e) = true ∧ ∀ k ∈ phKeys t, Template.countKey k t < 1000 := by
  unfold pathTplOk
  cases h : flatAtoms t with
  | none => simp
  | some fl =>
    simp only [Bool.and_eq_true, countOk_iff t t, Option.some.injEq, exists_eq_left', and_assoc]

/-- the captures of the full-length successes of a conform template on its own rendering -/
theorem full_success_caps (e : Env) (t : Template) (data : Dict) (w : Str)
    (hok : pathTplOk e t = true) (hv : valuesOk e t data = true)
    (hw : Template.format t data = some w) :
    (∃ caps, (w, [], caps) ∈ (Template.compile t).run e w) ∧
    ∀ x ∈ (Template.compile t).run e w, x.2.1 = [] →
      x.2.2 = (capNames [] t).zip ((phKeys t).map (valOf data)) := by
  obtain ⟨fl, hfl, hseg, hatom, _⟩ := (pathTplOk_iff e t).mp hok
  obtain ⟨hparse, hcount⟩ := parse_of_format e t fl data w hfl hatom hv hw
  have hit := mem_run_items e t [] fl hfl w
  refine ⟨⟨_, (hit w [] _).mpr ⟨by simp, _, hparse, rfl⟩⟩, ?_⟩
  rintro ⟨m, r, c⟩ hx hrest
  obtain ⟨happ, vs, pv, rfl⟩ := (hit m r c).mp hx
  cases hrest
  rw [List.append_nil] at happ
  subst happ
  rw [parse_unique e fl hseg m hcount vs _ pv hparse]

theorem matchToDict_rendered (cd : Bool) (t : Template) (data : Dict)
    (hcnt : ∀ k ∈ phKeys t, Template.countKey k t < 1000) :
    Template.matchToDict cd ((capNames [] t).zip ((phKeys t).map (valOf data))) [] =
      .ok (accum (valOf data) (phKeys t) []) := by
  have hstrip := capNames_dropCounter_nil t hcnt
  have hvals : (phKeys t).map (valOf data) = (capNames [] t).map (fun n => valOf data (SidL.dropCounter n)) := by
    rw [← hstrip, List.map_map]; rfl
  rw [matchToDict_consistent cd (valOf data)]
  · congr 1
    have : ∀ l : List (Str × Str), l.map (fun p => SidL.dropCounter p.1) = (l.map (·.1)).map SidL.dropCounter := by
      intro l; rw [List.map_map]; rfl
    rw [this, List.map_fst_zip, hstrip]
    simp [capNames_length]
  · intro p hp
    rw [hvals] at hp
    exact Lst.mem_zip_map _ _ p hp
  · intro k v h; simp [Dict.get] at h

theorem accum_rendered (t : Template) (data : Dict)
    (hkeys : Dict.keysEq data (Template.keys t) = true) :
    (∀ k, (accum (valOf data) (phKeys t) []).get k = data.get k) ∧
      (accum (valOf data) (phKeys t) []).map (·.1) = Template.keys t := by
  refine ⟨?_, by rw [accum_nil_keys, keys_eq_dedup]⟩
  intro k
  rw [accum_get]
  by_cases hk : k ∈ phKeys t
  · rw [if_pos hk]
    exact (Dict.get_of_keysEq hkeys ((mem_keys_iff_phKeys k t).2 hk)).symm
  · rw [if_neg hk]
    have hk' : k ∉ Template.keys t := fun h => hk ((mem_keys_iff_phKeys k t).1 h)
    rw [(Dict.get_eq_none_iff data k).mpr (fun hm => hk' (((Dict.keysEq_iff data _).1 hkeys k).1 hm))]
    simp [Dict.get]

/-- if `search` selects a full-length success, the template reads its own rendering back -/
theorem resolveTpl_own_of_full (e : Env) (cd : Bool) (t : Template) (data : Dict) (w : Str)
    (hok : pathTplOk e t = true) (hv : valuesOk e t data = true)
    (hkeys : Dict.keysEq data (Template.keys t) = true) (hne : Template.keys t ≠ [])
    (hw : Template.format t data = some w)
    (hfull : ∀ x, ((Template.compile t).run e w).find? (fun p => atDollar p.2.1) = some x →
      x.2.1 = []) :
    ∃ d, Resolver.resolveTpl e cd t w = .ok (some d) ∧ (∀ k, d.get k = data.get k) ∧
      d.map (·.1) = Template.keys t := by
  obtain ⟨⟨caps0, h0⟩, hall⟩ := full_success_caps e t data w hok hv hw
  obtain ⟨_, _, _, _, hcnt⟩ := (pathTplOk_iff e t).mp hok
  match hf : ((Template.compile t).run e w).find? (fun p => atDollar p.2.1) with
  | none => exact absurd hf (find_dollar_ne_none _ w caps0 h0)
  | some x =>
    have hcaps := hall x (List.mem_of_find?_eq_some hf) (hfull x hf)
    obtain ⟨hget, hk⟩ := accum_rendered t data hkeys
    refine ⟨accum (valOf data) (phKeys t) [],
      (SidL.resolveTpl_some_iff e cd t w _).mpr ⟨x, hf, ?_, ?_⟩, hget, hk⟩
    · rw [hcaps, matchToDict_rendered cd t data hcnt]
    · cases hd : accum (valOf data) (phKeys t) [] with
      | nil => rw [hd] at hk; exact absurd hk.symm hne
      | cons _ _ => rfl

/-! ### captured values are words of the vocabularies -/

theorem parse_lits_vals (e : Env) : ∀ (cs : Str) (w : Str) (vs : List Str),
    Parse e (cs.map (fun c => Atom.cls (Template.litCls c))) w vs → vs = []
  | [], w, vs, h => ((parse_nil_iff e w vs).mp h).2
  | c :: cs, w, vs, h => by
    obtain ⟨u, w', vs', _, rfl, _, p1⟩ := (parse_cons_iff e _ _ w vs).mp h
    simpa [aval] using parse_lits_vals e cs w' _ p1

theorem valuesOk_of_parse (e : Env) (d : Dict) : ∀ (t : Template) (fl : List Atom) (w : Str)
    (vs : List Str), flatAtoms t = some fl → Parse e fl w vs →
    (∀ q ∈ (phKeys t).zip vs, d.get q.1 = some q.2) → valuesOk e t d = true
  | [], _, _, _, _, _, _ => by simp [valuesOk]
  | .lit s :: rest, fl, w, vs, h, hp, hd => by
    obtain ⟨as, has, rfl⟩ := (flatAtoms_lit s rest fl).mp h
    obtain ⟨w1, w2, v1, v2, rfl, rfl, p1, p2⟩ := (parse_append e _ _ w vs).mp hp
    have := parse_lits_vals e s w1 v1 p1
    subst this
    have ih := valuesOk_of_parse e d rest as w2 v2 has p2 (by simpa [phKeys] using hd)
    simp only [valuesOk, List.all_cons, Bool.true_and] at ih ⊢
    exact ih
  | .ph k ex :: rest, fl, w, vs, h, hp, hd => by
    obtain ⟨a, as, ha, has, rfl⟩ := (flatAtoms_ph k ex rest fl).mp h
    obtain ⟨u, w', vs', rfl, rfl, hw, p1⟩ := (parse_cons_iff e _ _ w vs).mp hp
    rw [ph_aval k ex a ha] at hd
    simp only [phKeys, List.singleton_append, List.zip_cons_cons, List.mem_cons,
      forall_eq_or_imp] at hd
    have ih := valuesOk_of_parse e d rest as w' vs' has p1 hd.2
    simp only [valuesOk, List.all_cons, Bool.and_eq_true] at ih ⊢
    refine ⟨?_, ih⟩
    rw [hd.1]
    simp only [valuesOk_shortcut]
    exact (ph_accepts e k ex a ha u).mpr hw

theorem valuesOk_of_resolveTpl (e : Env) (t : Template) (s : Str) (d : Dict)
    (hok : pathTplOk e t = true) (h : Resolver.resolveTpl e true t s = .ok (some d)) :
    valuesOk e t d = true := by
  obtain ⟨fl, hfl, _, _, hcnt⟩ := (pathTplOk_iff e t).mp hok
  obtain ⟨x, hx, hm, _⟩ := (SidL.resolveTpl_some_iff e true t s d).mp h
  obtain ⟨_, vs, pv, hcap⟩ :=
    (mem_run_items e t [] fl hfl s x.1 x.2.1 x.2.2).mp (List.mem_of_find?_eq_some hx)
  have hget := (matchToDict_ok_get _ _ _ hm).1
  have hstrip := capNames_dropCounter_nil t hcnt
  apply valuesOk_of_parse e d t fl x.1 vs hfl pv
  intro q hq
  rw [← hstrip, List.zip_map_left] at hq
  obtain ⟨p, hp, rfl⟩ := List.mem_map.mp hq
  rw [← hcap] at hp
  simpa using hget p hp

end Det
