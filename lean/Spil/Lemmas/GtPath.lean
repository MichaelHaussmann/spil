/-
  Spil.Lemmas.GtPath — the '>' search of the path Finder and the set equality behind Finder
  independence (C09b).
-/
import Spil.Lemmas.GtList
import Spil.Props.C11b

namespace C09

open Spec

/-- the hypotheses of `C11.c11_paths_eq_list_whole` for one star search `s'` on a tree that holds
    exactly the entities `ents` (of the type of `s'`) plus junk -/
structure StarOk (d : DCtx) (w : World) (config : Option Str) (ents : List Sid) (s' : Sid) :
    Prop where
  path : ∃ pat, d.ctx.sidPath config s' = .ok (some pat) ∧ '[' ∉ pat
  typed : wellTyped d.ctx.env d.ctx.cfg.sid.templates s'
  whole : wholeStar s'.string
  nobracket : '[' ∉ s'.string
  holds : C11.HoldsExactly d w config s'.type ents

/-- a star search of a type WITHOUT path template (`shot__cache_node` in the shipped
    configuration): the path Finder globs the text "None" for it, nothing in the tree is called
    so, and no entity has that type -/
structure NoPath (d : DCtx) (w : World) (config : Option Str) (ents : List Sid) (s' : Sid) :
    Prop where
  none : d.ctx.sidPath config s' = .ok none
  noglob : w.glob ['N','o','n','e'] = []
  nobracket : '[' ∉ s'.string
  noents : ∀ e ∈ ents, e.type ≠ s'.type

variable {d : DCtx} {w : World} {config : Option Str} {ents : List Sid} {s' : Sid}

theorem hasPattern_of_ok (h : StarOk d w config ents s' ∨ NoPath d w config ents s') :
    HasPattern d w config s' :=
  h.elim (fun h => Or.inl (h.path.imp fun _ hp => hp.1)) fun h => Or.inr ⟨h.none, h.noglob⟩

theorem nobracket_of_ok (h : StarOk d w config ents s' ∨ NoPath d w config ents s') :
    '[' ∉ s'.string :=
  h.elim (·.nobracket) (·.nobracket)

theorem sidPath_ok_of_hasPattern (h : HasPattern d w config s') :
    ∃ po, d.ctx.sidPath config s' = .ok po :=
  h.elim (fun ⟨_, h⟩ => ⟨_, h⟩) fun h => ⟨_, h.1⟩

end C09

namespace GtL

open Spec Find GlobL

/-- the entities of the searched types, as the list a list Finder is given (known finding K6:
    a list Finder ignores the type of a typed search) -/
def entStrings (stars ents : List Sid) : List Str :=
  (ents.filter (fun e => stars.any (fun s' => e.type == s'.type))).map (·.string)

/-! ### the '>' search of the path Finder -/

theorem pathsDoFind_gt (d : DCtx) (w : World) (config : Option Str) (s0 : Sid) (rest : List Sid)
    (idx : Nat) (hidx : GtAt idx s0.string) (stars : List Sid)
    (hres : Ctx.mapE (fun x => d.resolveSearch (gtStar x.uri)) (s0 :: rest) = .ok stars)
    (rs : List (List Sid))
    (hstar : Ctx.mapE (fun s' => d.pathsStarSids w config [s']) stars = .ok rs) :
    d.pathsDoFind w config (s0 :: rest) = .ok (sortedPick idx (rs.flatten.map (·.string))) := by
  have h := Ctx.mapE_map (fun s' => d.pathsStarSids w config [s']) (fun l => l.map (·.string)) _ _ hstar
  have := doFindWith_gt d (d.pathsStar w config) s0 rest idx hidx stars hres _ h
  rw [DCtx.pathsDoFind, this, List.map_flatten]

/-- a star search whose type has no path template globs the text "None" -/
theorem pathsStarSids_none (d : DCtx) (w : World) (config : Option Str) (s' : Sid)
    (h : d.ctx.sidPath config s' = .ok none) (hg : w.glob ['N','o','n','e'] = []) :
    d.pathsStarSids w config [s'] = .ok [] := by
  rw [DCtx.pathsStarSids, FSL.pathsStarGo_cons, h]
  simp [hg, DCtx.pathsStarGo]

theorem pathsStarSids_of_hasPattern (d : DCtx) (w : World) (config : Option Str) (s' : Sid)
    (hsp : HasPattern d w config s') (hgm : '[' ∉ s'.string)
    (htot : ∀ p ∈ w.nodes.map (·.1), ∃ x, d.ctx.sidOfPath p config = .ok x) :
    ∃ r, d.pathsStarSids w config [s'] = .ok r ∧ r.Nodup ∧
      ∀ x, x ∈ r ↔ ∃ pat, d.ctx.sidPath config s' = .ok (some pat) ∧ ∃ p ∈ w.glob pat,
        d.ctx.sidOfPath p config = .ok x ∧ x.typed = true ∧ x.type = s'.type ∧
        Glob s'.string x.string := by
  rcases hsp with ⟨pat, hp⟩ | ⟨hn, hg⟩
  · obtain ⟨r, hr, hnd, hm⟩ := C11.c11_star_one d w config s' pat hp hgm htot
    refine ⟨r, hr, hnd, fun x => ?_⟩
    simp only [hm, Find.globMatch_iff _ _ _ hgm, hp, Except.ok.injEq, Option.some.injEq,
      exists_eq_left']
  · refine ⟨[], pathsStarSids_none d w config s' hn hg, List.nodup_nil, fun x => ?_⟩
    constructor
    · intro h; cases h
    · rintro ⟨pat, hp, _⟩; cases hn.symm.trans hp

theorem pathsDoFind_gt_match (d : DCtx) (w : World) (config : Option Str) (s0 : Sid) (rest : List Sid)
    (idx : Nat) (hidx : GtAt idx s0.string) (stars : List Sid)
    (hres : Ctx.mapE (fun x => d.resolveSearch (gtStar x.uri)) (s0 :: rest) = .ok stars)
    (hsp : ∀ s' ∈ stars, HasPattern d w config s')
    (hgm : ∀ s' ∈ stars, '[' ∉ s'.string)
    (htot : ∀ p ∈ w.nodes.map (·.1), ∃ x, d.ctx.sidOfPath p config = .ok x) :
    ∃ rs, Ctx.mapE (fun s' => d.pathsStarSids w config [s']) stars = .ok rs ∧
      d.pathsDoFind w config (s0 :: rest) = .ok (sortedPick idx (rs.flatten.map (·.string))) ∧
      ∀ y, y ∈ rs.flatten.map (·.string) ↔ PathMatch d w config stars y := by
  obtain ⟨rs, hrs, hm⟩ := Ctx.mapE_flatten_spec (fun s' => d.pathsStarSids w config [s']) _ stars
    fun s' hs' => (pathsStarSids_of_hasPattern d w config s' (hsp s' hs') (hgm s' hs') htot).imp
      fun _ h => ⟨h.1, h.2.2⟩
  refine ⟨rs, hrs, pathsDoFind_gt d w config s0 rest idx hidx stars hres rs hrs, fun y => ?_⟩
  simp only [List.mem_map, hm, PathMatch]
  constructor
  · rintro ⟨x, ⟨s', hs', pat, hp, p, hpg, h1, h2, h3, h4⟩, rfl⟩
    exact ⟨s', hs', pat, hp, p, hpg, x, h1, h2, h3, h4, rfl⟩
  · rintro ⟨s', hs', pat, hp, p, hpg, x, h1, h2, h3, h4, rfl⟩
    exact ⟨x, ⟨s', hs', pat, hp, p, hpg, h1, h2, h3, h4⟩, rfl⟩

/-- one star search per re-resolved search (what `sorted_search` does) finds the same Sids as ONE
    star search over all of them (what a '*' search with the same unfolding does), under the
    hypotheses of `C11.c11_star_list_mem` -/
theorem pathsStarSids_joint (d : DCtx) (w : World) (config : Option Str) (stars : List Sid)
    (rs : List (List Sid)) (R : List Sid)
    (hsp : ∀ s ∈ stars, ∃ po, d.ctx.sidPath config s = .ok po)
    (hgm : ∀ s ∈ stars, '[' ∉ s.string)
    (htot : ∀ p ∈ w.nodes.map (·.1), ∃ x, d.ctx.sidOfPath p config = .ok x)
    (hrs : Ctx.mapE (fun s' => d.pathsStarSids w config [s']) stars = .ok rs)
    (hR : d.pathsStarSids w config stars = .ok R) : ∀ x, x ∈ rs.flatten ↔ x ∈ R := by
  obtain ⟨R', hR', _, hRm⟩ := C11.c11_star_list_mem d w config stars hsp hgm htot
  cases hR.symm.trans hR'
  obtain ⟨rs', hrs', hm⟩ := Ctx.mapE_flatten_spec (fun s' => d.pathsStarSids w config [s']) _ stars
    fun s' hs' => (C11.c11_star_list_mem d w config [s'] (List.forall_mem_singleton.2 (hsp _ hs'))
      (List.forall_mem_singleton.2 (hgm _ hs')) htot).imp fun _ h => ⟨h.1, h.2.2⟩
  cases hrs.symm.trans hrs'
  simpa only [hRm, List.mem_singleton, exists_eq_left] using hm

/-! ### Finder independence: the two Finders select from the same set -/

theorem mem_entStrings (stars ents : List Sid) (y : Str) :
    y ∈ entStrings stars ents ↔ ∃ e ∈ ents, (∃ t ∈ stars, e.type = t.type) ∧ e.string = y := by
  simp only [entStrings, List.mem_map, List.mem_filter, List.any_eq_true, beq_iff_eq]
  constructor
  · rintro ⟨e, ⟨he, t, ht, hty⟩, rfl⟩; exact ⟨e, he, ⟨t, ht, hty⟩, rfl⟩
  · rintro ⟨e, he, ⟨t, ht, hty⟩, rfl⟩; exact ⟨e, ⟨he, t, ht, hty⟩, rfl⟩

/-- on a tree that holds exactly the entities `ents` for every searched type, the strings the path
    star searches return are those of the entities that a star search OF THEIR OWN TYPE matches
    (a list Finder would not look at the type: K6) -/
theorem pathsStarSids_strings (d : DCtx) (w : World) (config : Option Str) (stars ents : List Sid)
    (rs : List (List Sid))
    (hstar : Ctx.mapE (fun s' => d.pathsStarSids w config [s']) stars = .ok rs)
    (hok : ∀ s' ∈ stars, C09.StarOk d w config ents s' ∨ C09.NoPath d w config ents s')
    (hfix : ∀ pc, d.ctx.cfg.pathConf? config = some pc → starFixed pc = true) :
    ∀ y, y ∈ rs.flatten.map (·.string) ↔
      ∃ s' ∈ stars, ∃ x ∈ ents, x.type = s'.type ∧ Glob s'.string x.string ∧ x.string = y := by
  obtain ⟨rs', hrs', hm⟩ := Ctx.mapE_flatten_spec (fun s' => d.pathsStarSids w config [s'])
    (fun s' x => x ∈ ents ∧ x.type = s'.type ∧ Glob s'.string x.string) stars fun s' hs' => by
    rcases hok s' hs' with h | h
    · obtain ⟨pat, hp, hbp⟩ := h.path
      obtain ⟨found, r, hf, hr, _, _, hm⟩ := C11.c11_paths_eq_list_whole d w config s' pat ents hp
        h.typed h.whole h.nobracket hbp hfix h.holds
      obtain ⟨_, hfm⟩ := C08.c08_star_search_one d.ctx.env _ s'.string h.nobracket found hf
      refine ⟨r, hr, fun x => ?_⟩
      simp only [hm, hfm, List.mem_map]
      exact ⟨fun ⟨h1, h2, _, hg⟩ => ⟨h1, h2, hg⟩, fun ⟨h1, h2, hg⟩ => ⟨h1, h2, ⟨x, h1, rfl⟩, hg⟩⟩
    · exact ⟨[], pathsStarSids_none d w config s' h.none h.noglob, fun x =>
        ⟨fun hx => (nomatch hx), fun ⟨h1, h2, _⟩ => absurd h2 (h.noents x h1)⟩⟩
  cases hstar.symm.trans hrs'
  intro y
  simp only [List.mem_map, hm]
  constructor
  · rintro ⟨x, ⟨s', hs', h1, h2, h3⟩, rfl⟩
    exact ⟨s', hs', x, h1, h2, h3, rfl⟩
  · rintro ⟨s', hs', x, h1, h2, h3, rfl⟩
    exact ⟨x, ⟨s', hs', h1, h2, h3⟩, rfl⟩

end GtL
