/-
  Spil.Lemmas.DetDollar — which success `$` selects on a self-rendered path: the full-length one,
  also when the rendered path ends in a newline (then the last atom is a free placeholder, whose
  greedy star comes first).  Hence a conform template reads its own rendering back whatever the
  values (`resolveTpl_own`), and the reverse check of `format_one` returns the rendered path
  (`formatOne_own`) and never clashes (`formatOne_ne_resolva`).
-/
import Spil.Lemmas.PathL
import Spil.Lemmas.DetParse

namespace Det

open Spec

/-- the item of a free placeholder -/
def isFreeGrp : Re → Bool
  | .grp _ r => r == Re.star Cls.notSlash
  | _ => false

/-- items and atoms correspond one to one, a free atom to the group of `[^/]*` -/
theorem items_isFree : ∀ (t : Template) (seen : List Tok) (fl : List Atom),
    flatAtoms t = some fl → (Template.items seen t).map isFreeGrp = fl.map Atom.isFree
  | [], _, fl, h => by
    simp only [flatAtoms, Option.some.injEq] at h
    subst h; rfl
  | .lit s :: rest, seen, fl, h => by
    obtain ⟨as, has, rfl⟩ := (flatAtoms_lit s rest fl).mp h
    simp only [Template.items, List.map_append, List.map_map, items_isFree rest _ as has]
    rfl
  | .ph k ex :: rest, seen, fl, h => by
    obtain ⟨a, as, ha, has, rfl⟩ := (flatAtoms_ph k ex rest fl).mp h
    simp only [Template.items, List.map_cons, items_isFree rest _ as has, isFreeGrp]
    congr 1
    rcases phAtom_cases ha with ⟨rfl, rfl⟩ | ⟨hex, _, _, rfl⟩
    · simp [Atom.isFree]
    · simpa [Atom.isFree] using hex

theorem last_free_items (t : Template) (seen : List Tok) (fl : List Atom)
    (h : flatAtoms t = some fl) (k : Str) (hl : fl.getLast? = some (Atom.free k)) :
    ∃ init n, Template.items seen t = init ++ [Re.grp n (Re.star Cls.notSlash)] := by
  have := congrArg List.getLast? (items_isFree t seen fl h)
  rw [List.getLast?_map, List.getLast?_map, hl] at this
  obtain ⟨r, hr, hfree⟩ := Option.map_eq_some_iff.mp this
  obtain ⟨init, hi⟩ := List.getLast?_eq_some_iff.mp hr
  match r, hfree with
  | .grp n ex, hfree =>
    simp only [isFreeGrp, Atom.isFree, beq_iff_eq] at hfree
    exact ⟨init, n, by rw [hi, hfree]⟩

theorem aword_last_not_nl (e : Env) (a : Atom) (hok : atomOk e a = true) (hf : a.isFree = false)
    (u x : Str) (hu : aword e a u) : (x ++ u).getLast? ≠ some '\n' := by
  obtain ⟨hne, hnl⟩ := aword_nonfree e a hf (wordsOk_of_atomOk e a hok) u hu
  rw [Lst.getLast?_append_ne _ _ hne]
  exact fun hl => hnl (List.mem_of_getLast? hl)

/-- on a self-rendered path `$` selects a full-length success, newline or not -/
theorem find_dollar_rendered (e : Env) (t : Template) (data : Dict) (w : Str)
    (hok : pathTplOk e t = true) (hv : valuesOk e t data = true)
    (hw : Template.format t data = some w) :
    ∀ x, ((Template.compile t).run e w).find? (fun p => atDollar p.2.1) = some x → x.2.1 = [] := by
  obtain ⟨fl, hfl, _, hatom, _⟩ := (pathTplOk_iff e t).mp hok
  obtain ⟨hparse, _⟩ := parse_of_format e t fl data w hfl hatom hv hw
  cases hl : fl.getLast? with
  | none =>
    have : fl = [] := by simpa using hl
    subst this
    have := ((parse_nil_iff e w _).mp hparse).1
    subst this
    exact find_dollar_of_no_nl e _ [] (by simp)
  | some a =>
    obtain ⟨init, rfl⟩ := List.getLast?_eq_some_iff.mp hl
    obtain ⟨w1, u, v1, v2, rfl, _, _, p2⟩ := (parse_append e init [a] w _).mp hparse
    have hu := ((parse_single_iff e a u v2).mp p2).1
    have hoka : atomOk e a = true := by
      simp only [List.all_append, Bool.and_eq_true, List.all_cons] at hatom
      exact hatom.2.1
    cases hf : a.isFree with
    | false => exact find_dollar_of_no_nl e _ _ (aword_last_not_nl e a hoka hf u w1 hu)
    | true =>
      cases a with
      | free k =>
        obtain ⟨ini, n, hi⟩ := last_free_items t [] _ hfl k hl
        have hd : (Template.compile t).dollarOk e := by
          unfold Template.compile
          rw [hi]
          exact dollarOk_mkSeq_snoc e _ (dollarOk_grp e n _ (dollarOk_star_notSlash e)) ini
        exact hd _
      | cls k => simp [Atom.isFree] at hf
      | closed key alts => simp [Atom.isFree] at hf

/-- a conform template reads its own rendering back, also when the rendering ends in a newline -/
theorem resolveTpl_own (e : Env) (cd : Bool) (t : Template) (data : Dict) (w : Str)
    (hok : pathTplOk e t = true) (hv : valuesOk e t data = true)
    (hkeys : Dict.keysEq data (Template.keys t) = true) (hne : Template.keys t ≠ [])
    (hw : Template.format t data = some w) :
    ∃ d, Resolver.resolveTpl e cd t w = .ok (some d) ∧ (∀ k, d.get k = data.get k) ∧
      d.map (·.1) = Template.keys t :=
  resolveTpl_own_of_full e cd t data w hok hv hkeys hne hw (find_dollar_rendered e t data w hok hv hw)

theorem formatOne_own (e : Env) (r : Resolver) (label : Str) (t : Template)
    (hl : r.lookup label = some t) (hok : pathTplOk e t = true) (data : Dict)
    (hv : valuesOk e t data = true) (hkeys : Dict.keysEq data (Template.keys t) = true)
    (hne : Template.keys t ≠ []) (w : Str) (hf : Template.format t data = some w) (hw : w ≠ []) :
    Resolver.formatOne e r data label = .ok (some w) := by
  obtain ⟨d, hd, _, _⟩ := resolveTpl_own e r.checkDup t data w hok hv hkeys hne hf
  have hde : data.isEmpty = false := by
    simpa using fun h => hne ((Dict.eq_nil_iff_of_keysEq hkeys).1 h)
  have hwe : w.isEmpty = false := by simpa using hw
  simp [Resolver.formatOne, hde, hl, Resolver.formatTpl, hkeys, hf, Resolver.resolveOne, hwe, hd]

theorem formatOne_ne_resolva (e : Env) (r : Resolver) (label : Str) (t : Template)
    (hl : r.lookup label = some t) (hok : pathTplOk e t = true)
    (data : Dict) (hv : valuesOk e t data = true) :
    Resolver.formatOne e r data label ≠ .error .resolva := by
  intro h
  obtain ⟨hde, t', w, hl', hkeys, hf, hm⟩ := PathL.formatOne_error_inv e r data label _ h
  cases hl.symm.trans hl'
  have hne : Template.keys t ≠ [] := fun h0 => hde ((Dict.eq_nil_iff_of_keysEq hkeys).2 h0)
  obtain ⟨d, hd, _, _⟩ := resolveTpl_own e r.checkDup t data w hok hv hkeys hne hf
  obtain ⟨t'', hl'', hr⟩ := PathL.resolveOne_error_inv e r w label _ hm
  cases hl.symm.trans hl''
  rw [hd] at hr
  cases hr

end Det
