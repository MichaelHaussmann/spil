/-
  Spil.Lemmas.Dict — association lists (`List.lookup` with lawful keys) and the algebra of `Dict`
  (ordered association lists with Python `dict` semantics): `get` / `set` / `hasKey` / `erase` /
  `update` / `keysEq`, pointwise and on the key list.
-/
import Spil.Model.Str

namespace Lst

/-! ### `List.lookup` -/

variable {α β γ : Type _} [BEq α] [LawfulBEq α]

theorem lookup_mem (l : List (α × β)) (k : α) (v : β) (h : l.lookup k = some v) : (k, v) ∈ l := by
  obtain ⟨l₁, l₂, rfl, -⟩ := List.lookup_eq_some_iff.1 h
  simp

theorem lookup_eq_none_iff (l : List (α × β)) (k : α) : l.lookup k = none ↔ k ∉ l.map (·.1) := by
  simp only [List.lookup_eq_none_iff, List.mem_map, bne_iff_ne, ne_eq]
  exact ⟨fun h ⟨p, hp, e⟩ => h p hp e.symm, fun h p hp e => h ⟨p, hp, e.symm⟩⟩

theorem lookup_isSome_iff (l : List (α × β)) (k : α) :
    (l.lookup k).isSome = true ↔ k ∈ l.map (·.1) := by
  simp only [List.lookup_isSome_iff, List.mem_map, beq_iff_eq]
  exact ⟨fun ⟨p, hp, e⟩ => ⟨p, hp, e.symm⟩, fun ⟨p, hp, e⟩ => ⟨p, hp, e.symm⟩⟩

theorem lookup_of_mem (l : List (α × β)) (hnd : (l.map (·.1)).Nodup) (k : α) (v : β)
    (h : (k, v) ∈ l) : l.lookup k = some v := by
  induction l with
  | nil => cases h
  | cons p l ih =>
    simp only [List.map_cons, List.nodup_cons] at hnd
    rcases List.mem_cons.mp h with rfl | h
    · simp
    · have : k ≠ p.1 := fun e => hnd.1 (e ▸ List.mem_map.mpr ⟨(k, v), h, rfl⟩)
      rw [List.lookup_cons, beq_false_of_ne this]
      exact ih hnd.2 h

theorem lookup_perm (l₁ l₂ : List (α × β)) (h : l₁.Perm l₂) (hnd : (l₁.map (·.1)).Nodup) (k : α) :
    l₁.lookup k = l₂.lookup k := by
  cases h1 : l₁.lookup k with
  | none =>
    exact ((lookup_eq_none_iff l₂ k).2 fun hm =>
      (lookup_eq_none_iff l₁ k).1 h1 ((h.map _).mem_iff.2 hm)).symm
  | some v =>
    exact (lookup_of_mem l₂ ((h.map _).nodup_iff.1 hnd) k v
      (h.mem_iff.1 (lookup_mem l₁ k v h1))).symm

theorem lookup_map_snd (g : α → β → γ) (l : List (α × β)) (k : α) :
    (l.map (fun p => (p.1, g p.1 p.2))).lookup k = (l.lookup k).map (g k) := by
  induction l with
  | nil => rfl
  | cons p l ih =>
    obtain ⟨k0, v0⟩ := p
    simp only [List.map_cons, List.lookup_cons, ih]
    cases hb : k == k0 with
    | true => rw [eq_of_beq hb]; rfl
    | false => rfl

theorem lookup_map_graph [DecidableEq α] (K : List α) (f : α → β) (k : α) :
    List.lookup k (K.map (fun x => (x, f x))) = if k ∈ K then some (f k) else none := by
  induction K with
  | nil => rfl
  | cons x K ih =>
    simp only [List.map_cons, List.lookup_cons, ih, List.mem_cons]
    by_cases h : k = x
    · simp [h]
    · simp [beq_false_of_ne h, h]

theorem lookup_map_graph_some [DecidableEq α] (K : List α) (f : α → β) (k : α) (v : β)
    (h : List.lookup k (K.map (fun x => (x, f x))) = some v) : v = f k := by
  rw [lookup_map_graph] at h
  split at h
  · exact (Option.some.inj h).symm
  · cases h

/-! ### `any` with a test on one component -/

theorem any_fst_beq (l : List (α × β)) (x : α) : l.any (·.1 == x) = true ↔ x ∈ l.map (·.1) := by
  simp only [List.any_eq_true, beq_iff_eq, List.mem_map]

omit [BEq α] [LawfulBEq α] in
theorem any_snd_beq [BEq β] [LawfulBEq β] (l : List (α × β)) (x : β) :
    l.any (·.2 == x) = true ↔ x ∈ l.map (·.2) := by
  simp only [List.any_eq_true, beq_iff_eq, List.mem_map]

/-! ### duplicates -/

omit [BEq α] [LawfulBEq α] in
theorem nodup_snoc (l : List α) (a : α) : (l ++ [a]).Nodup ↔ l.Nodup ∧ a ∉ l := by
  rw [List.nodup_append]
  simp only [List.nodup_cons, List.not_mem_nil, not_false_eq_true, List.nodup_nil, and_self, true_and,
    List.mem_singleton]
  exact and_congr_right fun _ => ⟨fun h hm => h a hm a rfl rfl, fun h b hb c e1 e2 => h (e1 ▸ e2 ▸ hb)⟩

/-- for any function with these two equations, because the specifications define this check three
    times (`Spec.distinct`, `Spec.distinctStr`, `Spec.nodupStr`) -/
theorem distinctB_iff_nodup {f : List α → Bool} (hnil : f [] = true)
    (hcons : ∀ k ks, f (k :: ks) = (!ks.contains k && f ks)) (l : List α) : f l = true ↔ l.Nodup := by
  induction l with
  | nil => simp [hnil]
  | cons k ks ih => simp [hcons, ih, List.nodup_cons]

end Lst

namespace Dict

/-! ### `get` and the key list -/

/-- the statements below spell the key list `d.map (·.1)`; the model also writes `d.keys` -/
theorem keys_eq (d : Dict) : d.keys = d.map (·.1) := rfl

theorem get_cons (k' v' : Str) (d : Dict) (k : Str) :
    Dict.get ((k', v') :: d) k = if k = k' then some v' else Dict.get d k := by
  simp only [Dict.get, List.lookup_cons]
  by_cases h : k = k'
  · simp [h]
  · have : (k == k') = false := by simpa using h
    simp [h, this]

theorem get_isSome_iff (d : Dict) (k : Str) : (d.get k).isSome = true ↔ k ∈ d.map (·.1) :=
  Lst.lookup_isSome_iff d k

theorem get_eq_none_iff (d : Dict) (k : Str) : d.get k = none ↔ k ∉ d.map (·.1) :=
  Lst.lookup_eq_none_iff d k

theorem get_of_mem (d : Dict) (hnd : (d.map (·.1)).Nodup) (k v : Str) (h : (k, v) ∈ d) :
    d.get k = some v := Lst.lookup_of_mem d hnd k v h

theorem hasKey_iff_mem (d : Dict) (k : Str) : d.hasKey k = true ↔ k ∈ d.map (·.1) :=
  Lst.any_fst_beq d k

theorem hasKey_eq_of_keys (a b : Dict) (h : a.map (·.1) = b.map (·.1)) (k : Str) :
    a.hasKey k = b.hasKey k := by
  rw [Bool.eq_iff_iff, hasKey_iff_mem, hasKey_iff_mem, h]

theorem hasKey_eq_isSome (d : Dict) (k : Str) : d.hasKey k = (d.get k).isSome := by
  rw [Bool.eq_iff_iff, hasKey_iff_mem, get_isSome_iff]

theorem hasKey_get (d : Dict) (k : Str) (h : d.hasKey k = true) : ∃ v, d.get k = some v :=
  Option.isSome_iff_exists.1 (hasKey_eq_isSome d k ▸ h)

theorem hasKey_false_get (d : Dict) (k : Str) (h : d.hasKey k = false) : d.get k = none := by
  rw [hasKey_eq_isSome] at h
  cases hg : d.get k with
  | none => rfl
  | some _ => rw [hg] at h; simp at h

theorem keysEq_iff (d : Dict) (ks : List Str) :
    Dict.keysEq d ks = true ↔ ∀ k, k ∈ d.map (·.1) ↔ k ∈ ks := by
  simp only [Dict.keysEq, Dict.hasKey, Bool.and_eq_true, List.all_eq_true, List.contains_iff_mem,
    List.any_eq_true, beq_iff_eq, List.mem_map]
  constructor
  · rintro ⟨h1, h2⟩ k
    constructor
    · rintro ⟨p, hp, rfl⟩; exact h1 p hp
    · intro hk; obtain ⟨p, hp, h⟩ := h2 k hk; exact ⟨p, hp, h⟩
  · intro h
    constructor
    · intro p hp; exact (h p.1).mp ⟨p, hp, rfl⟩
    · intro k hk; obtain ⟨p, hp, h'⟩ := (h k).mpr hk; exact ⟨p, hp, h'⟩

theorem keysEq_of_keys_eq (d : Dict) (ks : List Str) (h : d.map (·.1) = ks) :
    d.keysEq ks = true :=
  (keysEq_iff d ks).2 fun _ => h ▸ Iff.rfl

theorem eq_nil_iff_of_keysEq {d : Dict} {ks : List Str} (h : Dict.keysEq d ks = true) :
    d = [] ↔ ks = [] := by
  have hk := (keysEq_iff d ks).1 h
  constructor
  · rintro rfl
    exact List.eq_nil_iff_forall_not_mem.2 fun k hk' => by simpa using (hk k).2 hk'
  · rintro rfl
    cases d with
    | nil => rfl
    | cons p d => simpa using (hk p.1).1 (by simp)

theorem get_of_mem_keys {p : Dict} {k : Str} (h : k ∈ p.map (·.1)) :
    p.get k = some ((p.get k).getD []) := by
  obtain ⟨v, hv⟩ := hasKey_get p k ((hasKey_iff_mem p k).mpr h)
  rw [hv]; rfl

theorem get_of_keysEq {p : Dict} {K : List Str} (hk : Dict.keysEq p K = true) {k : Str} (h : k ∈ K) :
    p.get k = some ((p.get k).getD []) :=
  get_of_mem_keys (((keysEq_iff p K).mp hk k).mpr h)

theorem keys_of_perm {K vals : List Str} {p : Dict} (len : vals.length = K.length)
    (perm : p.Perm (K.zip vals)) : ∀ k, k ∈ p.map (·.1) ↔ k ∈ K := by
  intro k
  rw [(perm.map (·.1)).mem_iff, List.map_fst_zip (by rw [len]; exact Nat.le_refl _)]

/-- for any `F` that is pointwise of this form, because a model function writes the body of its
    `map` with a `match` or an `if` outside the pair (`fun _ => rfl` serves when it is of this form
    by definition) -/
theorem get_map_kv (g : Str → Str → Str) (F : Str × Str → Str × Str)
    (hF : ∀ p, F p = (p.1, g p.1 p.2)) (k : Str) (d : Dict) :
    Dict.get (d.map F) k = (Dict.get d k).map (g k) := by
  rw [funext hF]; exact Lst.lookup_map_snd g d k

theorem map_keys_get (d : Dict) (hnd : (d.map (·.1)).Nodup) :
    (d.map (·.1)).map (fun k => (k, (d.get k).getD [])) = d := by
  rw [List.map_map]
  conv => rhs; rw [← List.map_id d]
  exact List.map_congr_left fun p hp => by
    simp only [Function.comp, get_of_mem d hnd p.1 p.2 hp, Option.getD_some, id]

/-! ### `set` -/

theorem get_set (d : Dict) (k v k' : Str) :
    (Dict.set d k v).get k' = if k' = k then some v else d.get k' := by
  induction d with
  | nil => simp [Dict.set, Dict.get]
  | cons p d ih =>
    obtain ⟨k0, v0⟩ := p
    simp only [Dict.set]
    by_cases h0 : k0 = k
    · subst h0
      simp only [beq_self_eq_true, if_true, get_cons]
      by_cases h : k' = k0 <;> simp [h]
    · have : (k0 == k) = false := by simpa using h0
      simp only [this, Bool.false_eq_true, if_false, get_cons, ih]
      by_cases h : k' = k0
      · have : k' ≠ k := by rw [h]; exact h0
        simp [h, h0]
      · simp [h]

theorem hasKey_set (d : Dict) (k v k' : Str) :
    (Dict.set d k v).hasKey k' = (decide (k' = k) || d.hasKey k') := by
  rw [hasKey_eq_isSome, hasKey_eq_isSome, get_set]
  by_cases h : k' = k <;> simp [h]

theorem keys_set (d : Dict) (k v : Str) :
    (Dict.set d k v).map (·.1) = if k ∈ d.map (·.1) then d.map (·.1) else d.map (·.1) ++ [k] := by
  induction d with
  | nil => simp [Dict.set]
  | cons p d ih =>
    obtain ⟨k0, v0⟩ := p
    simp only [Dict.set]
    by_cases h0 : k0 = k
    · subst h0; simp
    · have hb : (k0 == k) = false := by simpa using h0
      have h0' : ¬ k = k0 := fun e => h0 e.symm
      simp only [hb, Bool.false_eq_true, if_false, List.map_cons, ih, List.mem_cons, h0', false_or]
      split <;> simp

theorem set_nodup (d : Dict) (k v : Str) (h : (d.map (·.1)).Nodup) :
    ((Dict.set d k v).map (·.1)).Nodup := by
  rw [keys_set]
  split
  · exact h
  · next hk => exact (Lst.nodup_snoc _ _).2 ⟨h, hk⟩

theorem set_append_new (d : Dict) (k v : Str) (h : k ∉ d.map (·.1)) :
    Dict.set d k v = d ++ [(k, v)] := by
  induction d with
  | nil => rfl
  | cons p d ih =>
    obtain ⟨k0, v0⟩ := p
    simp only [List.map_cons, List.mem_cons, not_or] at h
    have hb : (k0 == k) = false := by simpa using fun e => h.1 e.symm
    simp only [Dict.set, hb, Bool.false_eq_true, if_false, ih h.2, List.cons_append]

theorem set_replace (k v i : Str) (rest : Dict) : ∀ (pre : Dict),
    k ∉ pre.map (·.1) → Dict.set (pre ++ (k, v) :: rest) k i = pre ++ (k, i) :: rest
  | [], _ => by simp [Dict.set]
  | (k', v') :: pre, h => by
    simp only [List.map_cons, List.mem_cons, not_or] at h
    have : (k' == k) = false := by simpa using fun e => h.1 e.symm
    simp [Dict.set, this, set_replace k v i rest pre h.2]

/-! ### `erase` -/

theorem get_erase (d : Dict) (k k' : Str) :
    (Dict.erase d k).get k' = if k' = k then none else d.get k' := by
  induction d with
  | nil => simp [Dict.erase, Dict.get]
  | cons p d ih =>
    obtain ⟨k0, v0⟩ := p
    simp only [Dict.erase, List.filter_cons] at ih ⊢
    by_cases h0 : k0 = k
    · subst h0
      simp only [bne_self_eq_false, Bool.false_eq_true, if_false, ih, get_cons]
      by_cases h : k' = k0 <;> simp [h]
    · have hb : (k0 != k) = true := by simpa using h0
      simp only [hb, if_true, get_cons, ih]
      by_cases h : k' = k0
      · have : k' ≠ k := by rw [h]; exact h0
        simp [h, h0]
      · simp [h]

theorem erase_nodup (d : Dict) (k : Str) (h : (d.map (·.1)).Nodup) :
    ((Dict.erase d k).map (·.1)).Nodup := by
  unfold Dict.erase
  exact h.sublist (List.Sublist.map _ List.filter_sublist)

/-! ### `update` -/

theorem update_cons (d : Dict) (a : Str × Str) (as : List (Str × Str)) :
    Dict.update d (a :: as) = Dict.update (Dict.set d a.1 a.2) as := rfl

theorem update_nodup (pairs : List (Str × Str)) : ∀ (d : Dict), (d.map (·.1)).Nodup →
    ((Dict.update d pairs).map (·.1)).Nodup := by
  induction pairs with
  | nil => intro d h; exact h
  | cons p ps ih =>
    intro d h
    simp only [Dict.update, List.foldl_cons]
    exact ih _ (set_nodup d p.1 p.2 h)

theorem ofPairs_nodup (pairs : List (Str × Str)) : ((Dict.ofPairs pairs).map (·.1)).Nodup :=
  update_nodup pairs [] (by simp)

theorem update_append (pairs : List (Str × Str)) : ∀ (d : Dict), (pairs.map (·.1)).Nodup →
    (∀ k ∈ pairs.map (·.1), k ∉ d.map (·.1)) → Dict.update d pairs = d ++ pairs := by
  induction pairs with
  | nil => intro d _ _; simp [Dict.update]
  | cons p ps ih =>
    obtain ⟨k0, v0⟩ := p
    intro d hn hd
    simp only [List.map_cons, List.nodup_cons] at hn
    simp only [Dict.update, List.foldl_cons] at ih ⊢
    rw [set_append_new d k0 v0 (hd k0 (by simp))]
    rw [ih _ hn.2]
    · simp
    · intro k hk
      simp only [List.map_append, List.map_cons, List.map_nil, List.mem_append, List.mem_singleton,
        not_or]
      refine ⟨hd k (by simp [hk]), ?_⟩
      intro e; subst e; exact hn.1 hk

theorem ofPairs_self (d : Dict) (hn : (d.map (·.1)).Nodup) : Dict.ofPairs d = d := by
  unfold Dict.ofPairs
  rw [update_append d [] hn (by simp)]
  simp

theorem get_update (prev attrs : Dict) (k : Str) :
    (Dict.update prev attrs).get k = (attrs.reverse.lookup k).or (prev.get k) := by
  induction attrs generalizing prev with
  | nil => rfl
  | cons a as ih =>
    obtain ⟨k0, v0⟩ := a
    rw [update_cons, ih, List.reverse_cons, List.lookup_append, get_set]
    cases as.reverse.lookup k with
    | some v => rfl
    | none =>
      simp only [Option.none_or, List.lookup_cons, List.lookup_nil]
      by_cases h : k = k0
      · simp [h]
      · simp [beq_false_of_ne h, h]

theorem get_update_of_nodup (pairs : List (Str × Str)) (hn : (pairs.map (·.1)).Nodup) (d : Dict) (k : Str) :
    (Dict.update d pairs).get k = (pairs.lookup k).or (d.get k) := by
  rw [get_update, ← Lst.lookup_perm pairs pairs.reverse (List.reverse_perm pairs).symm hn]

theorem zip_vals_get (ov : Dict) (K : List Str) (hkeys : ∀ k, k ∈ ov.map (·.1) ↔ k ∈ K) (k : Str) :
    Dict.get (K.zip (K.map (fun k => (ov.get k).getD []))) k = ov.get k := by
  rw [← List.map_prod_left_eq_zip, Dict.get, Lst.lookup_map_graph]
  by_cases h : k ∈ K
  · rw [if_pos h]; exact (get_of_mem_keys ((hkeys k).mpr h)).symm
  · rw [if_neg h]; exact ((get_eq_none_iff ov k).mpr fun hm => h ((hkeys k).mp hm)).symm

theorem get_zip (ks : List Str) (hnd : ks.Nodup) (segs : List Str)
    (hlen : segs.length = ks.length) :
    ∀ p ∈ ks.zip segs, Dict.get (ks.zip segs) p.1 = some p.2 := fun p hp =>
  get_of_mem _ (by rw [List.map_fst_zip (Nat.le_of_eq hlen.symm)]; exact hnd) p.1 p.2 hp

theorem map_get_zip (p : Dict) : ∀ (K vals : List Str), vals.length = K.length →
    (∀ q ∈ K.zip vals, p.get q.1 = some q.2) → K.map (fun k => (p.get k).getD []) = vals
  | [], [], _, _ => rfl
  | k :: K, v :: vals, hlen, hget => by
    have := hget (k, v) (by simp)
    simp only at this
    simp only [List.map_cons, this, Option.getD_some, List.cons.injEq, true_and]
    exact map_get_zip p K vals (by simpa using hlen) (fun q hq => hget q (by simp [hq]))

/-- the last key of a dictionary with distinct keys gets the last value -/
theorem get_getLast (d : Dict) (hnd : (d.map (·.1)).Nodup) (key : Str)
    (hlast : (d.map (·.1)).getLast? = some key) : d.get key = (d.map (·.2)).getLast? := by
  rcases List.eq_nil_or_concat d with rfl | ⟨d', a, rfl⟩
  · simp at hlast
  · rw [List.concat_eq_append] at hnd hlast ⊢
    simp only [List.map_append, List.map_cons, List.map_nil, List.getLast?_concat,
      Option.some.injEq] at hlast ⊢
    exact get_of_mem _ hnd key a.2 (by simp [← hlast])

end Dict
