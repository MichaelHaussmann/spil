/-
  Spil.Lemmas.Canon — canonicity of the paths `Sid.path` returns: `str(PurePosixPath(p))` of a
  string rooted at exactly one '/' followed by a real component is a canonical absolute path.
-/
import Spil.Lemmas.FS
import Spil.Lemmas.PathL

namespace CanonL

open Spec

theorem normalize_canon (p : Str) (h1 : PurePath.leadingSlashes p = 1)
    (hc : ((Str.splitOn '/' p).filter PurePath.keep) ≠ []) : CanonPath (PurePath.normalize p) := by
  refine ⟨(Str.splitOn '/' p).filter PurePath.keep, hc, ?_, ?_⟩
  · intro c hcm
    rw [List.mem_filter] at hcm
    refine ⟨?_, Str.splitOn_not_mem '/' p c hcm.1⟩
    rintro rfl
    simp [PurePath.keep] at hcm
  · simp [PurePath.normalize, h1]

theorem leadingSlashes_rooted (c : Char) (tail : Str) (hc : c ≠ '/') :
    PurePath.leadingSlashes ('/' :: c :: tail) = 1 := by
  simp [PurePath.leadingSlashes, hc]

theorem filter_keep_rooted (c : Char) (tail : Str) (hc : c ≠ '/') (hd : c ≠ '.') :
    ((Str.splitOn '/' ('/' :: c :: tail)).filter PurePath.keep) ≠ [] := by
  rw [Str.splitOn_cons, if_pos rfl, Str.splitOn_cons, if_neg hc]
  refine List.ne_nil_of_mem (List.mem_filter.2 ⟨List.mem_cons_of_mem _ List.mem_cons_self, ?_⟩)
  simp only [PurePath.keep, List.isEmpty_cons, Bool.not_false, Bool.true_and, bne_iff_ne, ne_eq]
  intro e
  injection e with e1 _
  exact hd e1

theorem normalize_rooted (c : Char) (tail : Str) (hc : c ≠ '/') (hd : c ≠ '.') :
    CanonPath (PurePath.normalize ('/' :: c :: tail)) :=
  normalize_canon _ (leadingSlashes_rooted c tail hc) (filter_keep_rooted c tail hc hd)

theorem sidPath_mem (c : Ctx) (cfg : Option Str) (x : Sid) (p : Str)
    (h : c.sidPath cfg x = .ok (some p)) :
    ∃ pc t d path, pc ∈ c.cfg.paths ∧ (x.type, t) ∈ pc.templates ∧ Template.format t d = some path ∧
      p = PurePath.normalize path := by
  obtain ⟨pc, t, raw, hpc, _, ht, _, _, hf, hp⟩ := PathL.sidPath_inv c cfg x p h
  exact ⟨pc, t, _, raw, (Conf.pathConf?_mem hpc), Lst.lookup_mem _ _ _ ht, hf, hp⟩

end CanonL
