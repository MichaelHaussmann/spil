/-
  Spil.Lemmas.DenoteUnfold — WHAT `unfold_search` computes on a query-free expression, in terms of
  what the expression denotes only (`unfold_spec`), and what follows from that alone: monotonicity,
  the results read through a function of type and string, a rewrite rule (`C10.Covers`) lifted to
  `unfold_search` and to list search.  The end results of C07c and C10b are instances.
-/
import Spil.Spec.Denote
import Spil.Lemmas.DenoteAlg
import Spil.Lemmas.DenoteFind

/-- `x` is the typed, query-free narrowing of a search the expression denotes -/
def C07.Narrowed (c : Ctx) (s : Str) (x : Sid) : Prop :=
  ∃ y, Spec.Denotes c s y ∧ c.typeNarrow y = .ok x ∧ x.typed = true ∧ '?' ∉ x.string

namespace DenL

open Spec Ctx C07 C10

variable (c : Ctx)

/-! ### what `unfold_search` keeps -/

/-- `sorted(set(…))` keeps ONE Sid per uri; for a kept Sid it does not matter which: among the
    narrowed Sids, one with the uri of a kept one is kept and has its type and string -/
private theorem kept_of_uri (hwf : sidHierOk c.env c.cfg.sid.templates = true) (x x' : Sid)
    (hs : NarrowOut c x) (hs' : NarrowOut c x')
    (hk : kept x = true) (hu : x'.uri = x.uri) :
    kept x' = true ∧ x'.type = x.type ∧ x'.string = x.string := by
  simp only [kept_iff, Sid.typed, Bool.not_eq_true', List.isEmpty_eq_false_iff] at hk ⊢
  rcases hs with ⟨_, hl⟩ | ⟨hf, _⟩
  · rcases hs' with ⟨hf', hl'⟩ | ⟨_, ht', h'⟩
    · obtain ⟨hty, hstr⟩ := uri_label_inj c hwf x x' hl hl' hu
      exact ⟨⟨hf', hstr ▸ hk.2⟩, hty, hstr⟩
    · exact absurd hu (uri_label_ne_untyped c hwf x x' hl ht' (h'.imp_right fun h => ⟨h, hk.2⟩))
  · exact absurd hf hk.1

/-! ### `unfold_search` in terms of `Malformed` and `Denotes` -/

structure UnfoldSpec (s : Str) : Prop where
  malformed : Malformed c s → c.unfoldSearch s false false = .error .spil
  error_inv : ¬ Malformed c s → ∀ e, c.unfoldSearch s false false = .error e →
    ∃ y, Denotes c s y ∧ c.typeNarrow y = .error e
  total : ¬ Malformed c s → (∀ y, Denotes c s y → ∃ x, c.typeNarrow y = .ok x) →
    ∃ r, c.unfoldSearch s false false = .ok r
  narrows : ∀ r, c.unfoldSearch s false false = .ok r → ∀ y, Denotes c s y → ∃ x, c.typeNarrow y = .ok x
  sound : ∀ r, c.unfoldSearch s false false = .ok r → ∀ x ∈ r, Narrowed c s x
  complete : ∀ r, c.unfoldSearch s false false = .ok r → ∀ x, Narrowed c s x →
    ∃ x' ∈ r, x'.uri = x.uri ∧ x'.type = x.type ∧ x'.string = x.string

theorem UnfoldSpec.wellformed {c : Ctx} {s : Str} (h : UnfoldSpec c s) (r : List Sid)
    (hr : c.unfoldSearch s false false = .ok r) : ¬ Malformed c s :=
  fun hmal => by rw [h.malformed hmal] at hr; cases hr

/-- what the typing stage returns (a denoted typed search or a leftover) is narrowed to a `NarrowOut` -/
theorem narrowOut_of_stage (hwf : sidHierOk c.env c.cfg.sid.templates = true)
    (hnk : c.cfg.sid.typedNarrowing.lookup [] = none) {s : Str} {y x : Sid}
    (hy : (y.typed = true ∧ Denotes c s y) ∨ Leftover y) (hyx : c.typeNarrow y = .ok x) :
    NarrowOut c x := by
  rcases hy with ⟨ht, a, _, hd⟩ | hl
  · rcases typeNarrow_inv c (HierL.hier_table hwf) y x hyx with rfl | hout
    · refine Or.inl ⟨by simpa [Sid.typed] using ht, ?_⟩
      rcases hd with ⟨_, _, p, hp, _, rfl⟩ | ⟨_, _, _, _, p, hp, _, _, rfl⟩ <;> exact ⟨p.2, hp⟩
    · exact hout
  · rw [typeNarrow_leftover c hnk y hl] at hyx
    cases hyx
    exact leftover_out c hl

private theorem unfold_spec_wf (hC : ConfOk c) (s : Str) (hS : ExprOk c s) (hmal : ¬ Malformed c s) :
    UnfoldSpec c s := by
  obtain ⟨hwf, hal, hnk⟩ := hC
  obtain ⟨s3, hs3, hden, heq⟩ := (unfold_stages c hwf hal s hS.noQuery hS.noColon
    ((Str.isInfix_eq_false_iff _ _).1 hS.noMark) hS.rooted).2 hmal
  -- a member of `s3` that is not denoted is a leftover, which narrowing leaves alone
  have hs3' : ∀ y ∈ s3, Denotes c s y ∨ (Leftover y ∧ c.typeNarrow y = .ok y) := fun y hy =>
    (hs3 y hy).imp (·.2) (fun hl => ⟨hl, typeNarrow_leftover c hnk y hl⟩)
  -- a result is the narrowed list, sorted, deduplicated and filtered
  have hok : ∀ r, c.unfoldSearch s false false = .ok r →
      ∃ s4, mapE c.typeNarrow s3 = .ok s4 ∧ r = (sortSids s4).filter kept := fun r h =>
    let ⟨s4, h4, e⟩ := (Except.map_eq_ok _ _ r).1 (heq ▸ h)
    ⟨s4, h4, e.symm⟩
  refine ⟨fun h => absurd h hmal, fun _ e h => ?_, fun _ hn => ?_, fun r h y hd => ?_,
    fun r h x hx => ?_, fun r h => ?_⟩
  · obtain ⟨y, hy, hye⟩ := mapE_error _ _ _ ((Except.map_eq_error_iff _ _ _).1 (heq ▸ h))
    rcases hs3' y hy with hd | ⟨_, hl⟩
    · exact ⟨y, hd, hye⟩
    · rw [hl] at hye; cases hye
  · obtain ⟨s4, h4⟩ := (mapE_ok_iff c.typeNarrow s3).2 (fun y hy =>
      (hs3' y hy).elim (hn y) (fun hl => ⟨y, hl.2⟩))
    exact ⟨_, by rw [heq, h4]; rfl⟩
  · obtain ⟨s4, hn, _⟩ := hok r h
    exact (mapE_ok_iff _ _).1 ⟨_, hn⟩ y (hden y hd)
  · obtain ⟨s4, hn, rfl⟩ := hok r h
    obtain ⟨hx4, hk⟩ := List.mem_filter.1 hx
    obtain ⟨y, hy, hyx⟩ := (mapE_mem _ _ _ hn x).1 (Ctx.mem_of_mem_sortSids hx4)
    rw [kept_iff] at hk
    rcases hs3' y hy with hd | ⟨hl, hyy⟩
    · exact ⟨y, hd, hyx, hk⟩
    · rw [hyy] at hyx
      cases hyx
      rw [leftover_untyped hl] at hk
      cases hk.1
  · obtain ⟨s4, hn, rfl⟩ := hok r h
    have hmem := mapE_mem _ _ _ hn
    have hout : ∀ x ∈ s4, NarrowOut c x := fun x hx =>
      let ⟨y, hy, hyx⟩ := (hmem x).1 hx
      narrowOut_of_stage c hwf hnk (hs3 y hy) hyx
    rintro x ⟨y, hd, hyx, ht, hxq⟩
    have hx4 := (hmem x).2 ⟨y, hden y hd, hyx⟩
    obtain ⟨x', hx', hu⟩ := Ctx.sortSids_cover s4 x hx4
    obtain ⟨hk', hty, hstr⟩ := kept_of_uri c hwf x x' (hout x hx4)
      (hout x' (Ctx.mem_of_mem_sortSids hx')) ((kept_iff x).2 ⟨ht, hxq⟩) hu
    exact ⟨x', List.mem_filter.2 ⟨hx', hk'⟩, hu, hty, hstr⟩

theorem unfold_spec (hC : ConfOk c) (s : Str) (hS : ExprOk c s) : UnfoldSpec c s := by
  by_cases hmal : Malformed c s
  · have hE := (unfold_stages c hC.wf hC.alias s hS.noQuery hS.noColon
      ((Str.isInfix_eq_false_iff _ _).1 hS.noMark) hS.rooted).1 hmal
    have hno : ∀ r, c.unfoldSearch s false false ≠ .ok r := fun r h => by rw [hE] at h; cases h
    exact ⟨fun _ => hE, fun h => absurd hmal h, fun h => absurd hmal h,
      fun r h => absurd h (hno r), fun r h => absurd h (hno r), fun r h => absurd h (hno r)⟩
  · exact unfold_spec_wf c hC s hS hmal

theorem unfold_mono (hC : ConfOk c) (s s' : Str) (hS : ExprOk c s) (hS' : ExprOk c s')
    (hsub : ∀ y, Denotes c s' y → Denotes c s y) (hmal : Malformed c s' → Malformed c s)
    (r : List Sid) (h : c.unfoldSearch s false false = .ok r) :
    ∃ r', c.unfoldSearch s' false false = .ok r' ∧
      ∀ x' ∈ r', ∃ x ∈ r, x.uri = x'.uri ∧ x.type = x'.type ∧ x.string = x'.string := by
  have hsp := unfold_spec c hC s hS
  have hsp' := unfold_spec c hC s' hS'
  have hnm := hsp.wellformed r h
  obtain ⟨r', hr'⟩ := hsp'.total (fun hm => hnm (hmal hm)) (fun y hd => hsp.narrows r h y (hsub y hd))
  refine ⟨r', hr', fun x' hx' => ?_⟩
  obtain ⟨y, hd, rest⟩ := hsp'.sound r' hr' x' hx'
  exact hsp.complete r h x' ⟨y, hsub y hd, rest⟩

theorem unfold_map {α : Type} (f : Sid → α)
    (hf : ∀ x x' : Sid, x.type = x'.type → x.string = x'.string → f x = f x')
    (hC : ConfOk c) (s : Str) (hS : ExprOk c s)
    (r : List Sid) (h : c.unfoldSearch s false false = .ok r) (v : α) :
    v ∈ r.map f ↔ ∃ y x, Denotes c s y ∧ c.typeNarrow y = .ok x ∧ x.typed = true ∧ '?' ∉ x.string ∧ f x = v := by
  have hsp := unfold_spec c hC s hS
  rw [List.mem_map]
  constructor
  · rintro ⟨x, hx, rfl⟩
    obtain ⟨y, hd, hyx, ht, hxq⟩ := hsp.sound r h x hx
    exact ⟨y, x, hd, hyx, ht, hxq, rfl⟩
  · rintro ⟨y, x, hd, hyx, ht, hxq, rfl⟩
    obtain ⟨x', hx', _, hty, hstr⟩ := hsp.complete r h x ⟨y, hd, hyx, ht, hxq⟩
    exact ⟨x', hx', hf x' x hty hstr⟩

/-! ### a rewrite rule lifted to `unfold_search` -/

/-- a rewrite rule at the level of `unfold_search`; `f` only looks at type and string (the uri,
    the string) -/
theorem unfold_union {ι α : Type} (f : Sid → α)
    (hf : ∀ x x' : Sid, x.type = x'.type → x.string = x'.string → f x = f x')
    (hC : ConfOk c) (s : Str) (hS : ExprOk c s) {P : ι → Prop} {S : ι → Str} (hcov : Covers c s P S)
    (r : List Sid) (h : c.unfoldSearch s false false = .ok r) :
    (∀ i, P i → ∃ r', c.unfoldSearch (S i) false false = .ok r') ∧
    ∀ v, v ∈ r.map f ↔ ∃ i, P i ∧ ∃ r', c.unfoldSearch (S i) false false = .ok r' ∧ v ∈ r'.map f := by
  have hmono := fun i hi => unfold_mono c hC s (S i) hS (hcov.exprOk hS i hi)
    (fun y hd => (hcov.denotes y).2 ⟨i, hi, hd⟩) (fun hm => hcov.malformed.2 ⟨i, hi, hm⟩) r h
  refine ⟨fun i hi => (hmono i hi).imp fun _ h => h.1, fun v => ?_⟩
  simp only [List.mem_map]
  constructor
  · rintro ⟨x, hx, rfl⟩
    obtain ⟨y, hd, rest⟩ := (unfold_spec c hC s hS).sound r h x hx
    obtain ⟨i, hi, hd'⟩ := (hcov.denotes y).1 hd
    obtain ⟨r', hr', _⟩ := hmono i hi
    obtain ⟨x', hx', _, hty, hstr⟩ :=
      (unfold_spec c hC _ (hcov.exprOk hS i hi)).complete r' hr' x ⟨y, hd', rest⟩
    exact ⟨i, hi, r', hr', x', hx', hf _ _ hty hstr⟩
  · rintro ⟨i, hi, r', hr', x', hx', rfl⟩
    obtain ⟨r'', hr'', hsub⟩ := hmono i hi
    rw [hr'] at hr''
    cases hr''
    obtain ⟨x, hx, _, hty, hstr⟩ := hsub x' hx'
    exact ⟨x, hx, hf _ _ hty hstr⟩

theorem unfold_same {α : Type} (f : Sid → α)
    (hf : ∀ x x' : Sid, x.type = x'.type → x.string = x'.string → f x = f x')
    (hC : ConfOk c) (s s' : Str) (hS : ExprOk c s) (hS' : ExprOk c s')
    (hp : ∀ a, Picks c s a ↔ Picks c s' a)
    (r : List Sid) (h : c.unfoldSearch s false false = .ok r) :
    ∃ r', c.unfoldSearch s' false false = .ok r' ∧ ∀ v, v ∈ r.map f ↔ v ∈ r'.map f := by
  have hd : ∀ y, Denotes c s y ↔ Denotes c s' y := fun y =>
    exists_congr fun a => and_congr_left fun _ => hp a
  obtain ⟨r', hr', _⟩ := unfold_mono c hC s s' hS hS' (fun y => (hd y).2)
    (fun ⟨a, hpa, hm⟩ => ⟨a, (hp a).2 hpa, hm⟩) r h
  refine ⟨r', hr', fun v => ?_⟩
  rw [unfold_map c f hf hC s hS r h v, unfold_map c f hf hC s' hS' r' hr' v]
  simp only [hd]

/-! ### a rewrite rule lifted to list search -/

theorem findInList_sub (s' : Str) (hag' : SearchesAgree c s') (L : List Str) (r r' : List Sid)
    (hr' : c.unfoldSearch s' false false = .ok r')
    (hsub : ∀ p ∈ r'.map (·.string), p ∈ r.map (·.string))
    (hgt : ∀ p ∈ r.map (·.string), '>' ∉ p) (hbr : ∀ p ∈ r.map (·.string), '[' ∉ p) :
    ∃ R', c.findInList ⟨L, false⟩ s' = .ok R' ∧
      ∀ x, x ∈ R' ↔ (x ∈ L ∧ ∃ p ∈ r'.map (·.string), Glob p x) :=
  let ⟨R', hR', _, hmem'⟩ := findInList_agree c s' hag' L r' hr'
    (fun p hp => hgt p (hsub p hp)) (fun p hp => hbr p (hsub p hp))
  ⟨R', hR', hmem'⟩

theorem find_union {ι : Type} (hC : ConfOk c) (s : Str) (hS : ExprOk c s) {P : ι → Prop} {S : ι → Str}
    (hcov : Covers c s P S) (L : List Str)
    (r : List Sid) (h : c.unfoldSearch s false false = .ok r)
    (hag : SearchesAgree c s) (hags : ∀ i, P i → SearchesAgree c (S i))
    (hgt : ∀ p ∈ r.map (·.string), '>' ∉ p) (hbr : ∀ p ∈ r.map (·.string), '[' ∉ p) :
    ∃ R, c.findInList ⟨L, false⟩ s = .ok R ∧ R.Nodup ∧
      (∀ i, P i → ∃ R', c.findInList ⟨L, false⟩ (S i) = .ok R') ∧
      ∀ x, x ∈ R ↔ ∃ i, P i ∧ ∃ R', c.findInList ⟨L, false⟩ (S i) = .ok R' ∧ x ∈ R' := by
  obtain ⟨R, hR, hnd, hmem⟩ := findInList_agree c s hag L r h hgt hbr
  obtain ⟨hex, hstr⟩ := unfold_union c (·.string) (fun _ _ _ h => h) hC s hS hcov r h
  have hmemb := fun i hi r' hr' => findInList_sub c (S i) (hags i hi) L r r' hr'
    (fun p hp => (hstr p).2 ⟨i, hi, r', hr', hp⟩) hgt hbr
  refine ⟨R, hR, hnd, fun i hi => ?_, fun x => ?_⟩
  · obtain ⟨r', hr'⟩ := hex i hi
    exact (hmemb i hi r' hr').imp fun _ h => h.1
  rw [hmem x]
  constructor
  · rintro ⟨hx, p, hp, hg⟩
    obtain ⟨i, hi, r', hr', hp'⟩ := (hstr p).1 hp
    obtain ⟨R', hR', hmem'⟩ := hmemb i hi r' hr'
    exact ⟨i, hi, R', hR', (hmem' x).2 ⟨hx, p, hp', hg⟩⟩
  · rintro ⟨i, hi, R', hR', hx⟩
    obtain ⟨r', hr'⟩ := hex i hi
    obtain ⟨R'', hR'', hmem'⟩ := hmemb i hi r' hr'
    rw [hR'] at hR''
    cases hR''
    obtain ⟨hxL, p, hp, hg⟩ := (hmem' x).1 hx
    exact ⟨hxL, p, (hstr p).2 ⟨i, hi, r', hr', hp⟩, hg⟩

end DenL
