/-
  Spil.Lemmas.DenoteNarrow — helper lemmas for C07c: what `type_narrow` can return (shape only:
  the behaviour of the overlay is C04's).
-/
import Spil.Spec.Denote
import Spil.Lemmas.DenoteExpand

namespace DenL

open Spec Ctx

/-- the shape of what the typing stage and the Sid constructor on `something?query` return: a typed
    Sid of a configured type, or an untyped one whose string is no uri or shows an un-applied query -/
def NarrowOut (c : Ctx) (x : Sid) : Prop :=
  (x.fields ≠ [] ∧ IsLabel c x.type) ∨
  (x.fields = [] ∧ x.type = [] ∧ (':' ∉ x.string ∨ '?' ∈ x.string))

theorem leftover_out (c : Ctx) {x : Sid} (h : Leftover x) : NarrowOut c x := by
  obtain ⟨u, rfl, _, hc⟩ := h
  exact Or.inr ⟨rfl, rfl, Or.inl hc⟩

/-! ### labels and non-empty data out of the resolver -/

theorem sidToDict_inv (c : Ctx) (hwf : sidTableOk c.env c.cfg.sid.templates = true) (s : Str)
    (ty : Option Str) (l : Str) (d : Dict)
    (h : c.sidToDict s ty = .ok (some (l, d))) : IsLabel c l ∧ d ≠ [] := by
  obtain ⟨r, hr, hshape⟩ := SidL.sidToDict_inv c hwf s ty
  rw [hr] at h
  cases h
  obtain ⟨t, ht, _, _, rfl⟩ := hshape l d rfl
  exact ⟨⟨t, ht⟩,
    SidL.fieldsOf_ne_nil t s (SidL.tplOk_unpack _ _ (SidL.tableOk_tplOk hwf ht)).ne_nil⟩

theorem formatAllGo_inv (e : Env) (R : Resolver) (data : Dict) : ∀ (ts : List (Str × Template)) (found : List (Str × Str)),
    Resolver.formatAllGo e R data ts = .ok found → ∀ p ∈ found, ∃ t, (p.1, t) ∈ ts
  | [], found, h => by
    simp only [Resolver.formatAllGo, Except.ok.injEq] at h
    subst h; simp
  | (l, t) :: ts, found, h => by
    simp only [Resolver.formatAllGo] at h
    split at h
    · cases h
    · next of _ =>
      split at h
      · cases h
      · next more hmore =>
        simp only [Except.ok.injEq] at h
        subst h
        have ih := formatAllGo_inv e R data ts more hmore
        intro p hp
        cases of with
        | none =>
          obtain ⟨t', ht'⟩ := ih p hp
          exact ⟨t', by simp [ht']⟩
        | some f =>
          simp only [List.mem_cons] at hp
          rcases hp with rfl | hp
          · exact ⟨t, by simp⟩
          · obtain ⟨t', ht'⟩ := ih p hp
            exact ⟨t', by simp [ht']⟩

theorem dictToTypes_inv (c : Ctx) (data : Dict) (ts : List Str) (h : c.dictToTypes data = .ok ts) :
    (ts ≠ [] → data ≠ []) ∧ ∀ t ∈ ts, IsLabel c t := by
  unfold Ctx.dictToTypes Resolver.formatAll at h
  split at h
  · cases h
  · next found hfound =>
    simp only [Except.ok.injEq] at h
    subst h
    split at hfound
    · next he =>
      simp only [Except.ok.injEq] at hfound
      subst hfound
      simp
    · next he =>
      refine ⟨fun _ h0 => by rw [h0] at he; simp at he, ?_⟩
      intro t ht
      obtain ⟨p, hp, rfl⟩ := List.mem_map.1 ht
      exact formatAllGo_inv _ _ _ _ _ hfound p hp

/-! ### `apply_query` and the constructor on `something?query` -/

/-- the type and fields handed to `apply_query` by the constructor -/
def Resolved (c : Ctx) (ty : Str) (fields : Dict) : Prop :=
  (ty = [] ∧ fields = []) ∨ (IsLabel c ty ∧ fields ≠ [])

/-- `apply_query` returns the refusal (the old Sid with "?query" in the string) or the overlay applied
    with one of the types `dict_to_type` lists: a label, with non-empty data -/
theorem applyQuery_inv (c : Ctx) (hwf : sidTableOk c.env c.cfg.sid.templates = true)
    (string query ty : Str) (fields : Dict) (hq : query ≠ [])
    (hres : Resolved c ty fields) (x : Sid) (h : c.applyQuery string query ty fields = .ok x) :
    NarrowOut c x := by
  have hty : ¬ (ty.isEmpty = true ∧ fields.isEmpty = false) := by
    rcases hres with ⟨_, rfl⟩ | ⟨⟨t, ht⟩, _⟩
    · simp
    · simp [HierL.tableOk_label_ne_nil _ _ hwf _ ht]
  have hqe : query.isEmpty = false := by simp [hq]
  cases hov : Query.update fields query with
  | error e =>
    simp only [Ctx.applyQuery, hqe, hov, Bool.false_eq_true, if_false] at h; split at h <;> cases h
  | ok ov =>
    cases hts : c.dictToTypes ov with
    | error e =>
      simp only [Ctx.applyQuery, hqe, hov, hts, Bool.false_eq_true, if_false] at h; split at h <;> cases h
    | ok ts =>
      rcases C04.applyQuery_cases c hty hq hov hts with h' | ⟨t, ht, h'⟩
      · rw [h'] at h; cases h
        rcases hres with ⟨rfl, rfl⟩ | ⟨hl, hf⟩
        · exact Or.inr ⟨rfl, rfl, Or.inr (by simp)⟩
        · exact Or.inl ⟨hf, hl⟩
      · obtain ⟨hne, hlab⟩ := dictToTypes_inv c ov ts hts
        obtain ⟨_, _, rfl, r, hr, hf⟩ := C04.applyAs_inv c (h'.symm.trans h)
        refine Or.inl ⟨?_, hlab _ ht⟩
        rw [hf]
        cases r with
        | none => exact hne (List.ne_nil_of_mem ht)
        | some p => exact (sidToDict_inv c hwf _ (some _) p.1 p.2 hr).2

theorem split1_query (u q : Str) (hq : q ≠ []) :
    ∃ a q', Str.split1 '?' (u ++ '?' :: q) = (a, some q') ∧ q' ≠ [] := by
  rcases Str.first_sep '?' u with h | ⟨p, rest, rfl, hp⟩
  · exact ⟨u, q, Str.split1_some '?' u q h, hq⟩
  · exact ⟨p, rest ++ '?' :: q, by rw [List.append_assoc]; exact Str.split1_some '?' p _ hp, by simp⟩

theorem sidToSid_query_inv (c : Ctx) (hwf : sidTableOk c.env c.cfg.sid.templates = true)
    (u q : Str) (hq : q ≠ []) (x : Sid)
    (h : c.sidToSid (u ++ '?' :: q) = .ok x) : NarrowOut c x := by
  obtain ⟨a, q', hsp, hq'⟩ := split1_query u q hq
  have hqe : q'.isEmpty = false := by simp [hq']
  unfold Ctx.sidToSid at h
  simp only [hsp] at h
  split at h
  · cases h
  · next string r hres =>
    have hr : ∀ l d, r = some (l, d) → IsLabel c l ∧ d ≠ [] := by
      intro l d hrl
      subst hrl
      -- with or without a uri prefix: `sid_to_dict` on the string part
      split at hres
      all_goals
        split at hres
        · cases hres
        · next r' hr' =>
          simp only [Except.ok.injEq, Prod.mk.injEq] at hres
          obtain ⟨_, rfl⟩ := hres
          exact sidToDict_inv c hwf _ _ l d hr'
    simp only [hqe, Bool.false_eq_true, if_false] at h
    split at h
    · simp only [Except.ok.injEq] at h
      subst h
      exact Or.inr ⟨rfl, rfl, Or.inr (by simp)⟩
    · refine applyQuery_inv c hwf string q' _ _ hq' ?_ x h
      cases r with
      | none => exact Or.inl ⟨rfl, rfl⟩
      | some p => exact Or.inr (hr p.1 p.2 rfl)

theorem getWithQuery_inv (c : Ctx) (hwf : sidTableOk c.env c.cfg.sid.templates = true)
    (y : Sid) (q : Str) (hq : q ≠ []) (x : Sid)
    (h : c.getWithQuery y q = .ok x) : NarrowOut c x := by
  unfold Ctx.getWithQuery at h
  split at h
  · simp only [Except.ok.injEq] at h
    subst h
    exact Or.inr ⟨rfl, rfl, Or.inl (by simp [Sid.empty])⟩
  · unfold Ctx.sidOfString at h
    have : (y.uri ++ '?' :: q).isEmpty = false := by simp
    simp only [this, Bool.false_eq_true, if_false] at h
    exact sidToSid_query_inv c hwf y.uri q hq x h

theorem narrowStep_inv (c : Ctx) (hwf : sidTableOk c.env c.cfg.sid.templates = true)
    (y x : Sid) (q : Str) (h : narrowStep c y q = .ok x) : x = y ∨ NarrowOut c x := by
  unfold narrowStep at h
  split at h
  · simp only [Except.ok.injEq] at h
    exact Or.inl h.symm
  · next hne =>
    exact Or.inr (getWithQuery_inv c hwf y q (by intro h0; rw [h0] at hne; simp at hne) x h)

theorem typeNarrow_inv (c : Ctx) (hwf : sidTableOk c.env c.cfg.sid.templates = true)
    (y x : Sid) (h : c.typeNarrow y = .ok x) : x = y ∨ NarrowOut c x := by
  unfold Ctx.typeNarrow at h
  split at h
  · simp only [Except.ok.injEq] at h
    exact Or.inl h.symm
  · simp only at h
    split at h
    · cases h
    · next x1 hx1 =>
      have h1 : x1 = y ∨ NarrowOut c x1 := narrowStep_inv c hwf y x1 _ hx1
      rcases narrowStep_inv c hwf x1 x _ h with rfl | h2
      · exact h1
      · exact Or.inr h2

/-- `type_narrow` on a typed, query-free Sid: the basetyped step, then the typed step -/
theorem typeNarrow_eq (c : Ctx) (y : Sid) (hq : '?' ∉ y.string) (hty : y.type ≠ []) :
    c.typeNarrow y =
      (narrowStep c y (narrowQ1 c y.type)).bind fun x1 => narrowStep c x1 (narrowQ2 c x1.type) := by
  have h1 : Str.hasChar '?' y.string = false := (Str.hasChar_eq_false_iff _ _).2 hq
  have hb := ExpL.basetype_eq c y hty
  unfold Ctx.typeNarrow narrowStep narrowQ1 narrowQ2
  simp only [h1, Bool.false_eq_true, if_false, hb]
  cases basetypeOf c y.type with
  | none => rfl
  | some bt =>
    simp only
    split <;> rename_i h <;> rw [h] <;> rfl

/-- a leftover of the typing stage passes `type_narrow` unchanged.  `hnk` (no narrowing configured
    for the empty type name) is needed: an untyped Sid has type `""` in the model (`None` in Python),
    so a table entry for `""` would be applied to it -/
theorem typeNarrow_leftover (c : Ctx) (hnk : c.cfg.sid.typedNarrowing.lookup [] = none) (y : Sid)
    (hy : Leftover y) : c.typeNarrow y = .ok y := by
  obtain ⟨u, rfl, hq, _⟩ := hy
  have h1 : Str.hasChar '?' u = false := (Str.hasChar_eq_false_iff _ _).2 hq
  simp [Ctx.typeNarrow, Sid.untyped, h1, Ctx.basetype, hnk]

end DenL
