/-
  Spil.Lemmas.AllConst — `Finder.find` over an arbitrary `do_find` (`findVia`), and
  `FindInConstants.star_search` for ONE search Sid (`constStar … [s]`): its cases; the search of a
  list is the concatenation of the single searches (`constStar_eq_flatMapE`).
-/
import Spil.Lemmas.AllRoute

namespace AllL

/-! ### `Finder.find` over an arbitrary `do_find` -/

/-- `Finder.find(search, as_sid=…)` (the base class method) over the `do_find` of the Finder -/
def findVia (c : Ctx) (doFind : List Sid → Except Err (List Str)) (search : Sid) :
    Except Err (List Str) :=
  match (if search.typed then c.sidOfString search.uri else .ok Sid.empty) with
  | .error e => .error e
  | .ok sid =>
    match (if sid.typed && !c.isSearch sid && !c.isAliasSearch sid && !Str.hasChar '?' sid.string
           then (.ok [sid] : Except Err (List Sid))
           else c.unfoldSearch search.string false false) with
    | .error e => .error e
    | .ok ss => doFind ss

theorem finderFind_succ (d : DCtx) (w : World) (fuel i : Nat) (search : Sid) :
    d.finderFind w (fuel + 1) i search = findVia d.ctx (d.finderDoFind w fuel i) search := by
  rw [DCtx.finderFind.eq_2]
  rfl

theorem finderFind_zero (d : DCtx) (w : World) (i : Nat) (search : Sid) :
    d.finderFind w 0 i search = .error .other := by
  rw [DCtx.finderFind.eq_1]

theorem findVia_congr (c : Ctx) (f g : List Sid → Except Err (List Str)) (h : ∀ ss, f ss = g ss)
    (search : Sid) : findVia c f search = findVia c g search := by
  have : f = g := funext h
  rw [this]

/-! ### the inner steps of `FindInConstants.star_search`, as functions -/

/-- one value of `_append_value(root)`: `root.get_with(key=key, value=v)`, kept when typed -/
def withVal (d : DCtx) (key : Str) (x : Sid) (v : Str) : Except Err (List Str) :=
  match d.ctx.getWithKw x [(key, some v)] with
  | .error e => .error e
  | .ok r => .ok (if r.typed then [r.string] else [])

theorem appendValues_eq (d : DCtx) (key : Str) (values : List Str) (root : Sid) :
    d.appendValues key values root = Ctx.flatMapE (withVal d key root) values := rfl

/-- what `star_search` yields for ONE root found by the parent source -/
def perRoot (d : DCtx) (key : Str) (values : List Str) (root : Sid) (fr : Str) :
    Except Err (List Str) :=
  match d.ctx.sidOfString fr with
  | .error e => .error e
  | .ok frs =>
    match root.fields.get key with
    | some v =>
      if v != ['*'] then
        match d.ctx.div frs v with
        | .error e => .error e
        | .ok r => .ok [r.string]
      else d.appendValues key values frs
    | none => d.appendValues key values frs

/-! ### the cases of `star_search` for one search Sid (an untyped root: `C11.c11_const_nothing`) -/

section constStar

variable (d : DCtx) (w : World) (fuel : Nat) (key : Str) (values : List Str) (parent : Option Nat)

theorem constStar_cons (s : Sid) (rest : List Sid) :
    d.constStar w fuel key values parent (s :: rest) =
      (d.constStar w fuel key values parent [s]).bind fun out =>
        (d.constStar w fuel key values parent rest).map (out ++ ·) := by
  rw [DCtx.constStar.eq_2, DCtx.constStar.eq_2 _ _ _ _ _ _ s [], DCtx.constStar.eq_1]
  split
  · rfl
  · cases d.constStar w fuel key values parent rest <;> simp [Except.bind, Except.map]

theorem constStar_eq_flatMapE (ss : List Sid) :
    d.constStar w fuel key values parent ss =
      Ctx.flatMapE (fun s => d.constStar w fuel key values parent [s]) ss := by
  induction ss with
  | nil => rw [DCtx.constStar.eq_1]; rfl
  | cons s rest ih => rw [constStar_cons, Ctx.flatMapE_cons, ih]

theorem constStar_congr (f1 f2 : Nat)
    (h : ∀ pi, parent = some pi → ∀ rp, d.finderFind w f1 pi rp = d.finderFind w f2 pi rp)
    (ss : List Sid) :
    d.constStar w f1 key values parent ss = d.constStar w f2 key values parent ss := by
  induction ss with
  | nil => rw [DCtx.constStar.eq_1, DCtx.constStar.eq_1]
  | cons s rest ih =>
    rw [DCtx.constStar.eq_2, DCtx.constStar.eq_2, ih]
    cases parent with
    | none => rfl
    | some pi => simp only [h pi rfl]

/-- the parent is a search: the parent source is asked, every found root is completed -/
theorem constStar_parent (pi : Nat) (s s' root rp : Sid)
    (hs : (if s.typed then d.ctx.sidOfString s.uri else .ok Sid.empty) = .ok s')
    (hroot : d.ctx.getAs s' key = .ok root) (ht : root.typed = true)
    (hstar : Str.hasChar '*' root.string = true) (hp : d.ctx.parent root = .ok rp)
    (hrp : (Str.hasChar '*' rp.string && !(Sid.eqv root rp)) = true) :
    d.constStar w fuel key values (some pi) [s] =
      match d.finderFind w fuel pi rp with
      | .error e => .error e
      | .ok foundRoots => Ctx.flatMapE (perRoot d key values root) foundRoots := by
  rw [DCtx.constStar.eq_2, DCtx.constStar.eq_1]
  simp only [hs, hroot, ht, hstar, hp, hrp, Bool.not_true, Bool.false_eq_true, if_false, if_true]
  cases d.finderFind w fuel pi rp with
  | error e => rfl
  | ok frs =>
    -- the model's inner lambda is `perRoot d key values root`
    show (match Ctx.flatMapE (perRoot d key values root) frs with
      | .error e => (.error e : Except Err (List Str))
      | .ok out => .ok (out ++ [])) = Ctx.flatMapE (perRoot d key values root) frs
    cases Ctx.flatMapE (perRoot d key values root) frs <;> simp

/-- no parent search: the constant values are appended to the root -/
theorem constStar_append (s s' root rp : Sid)
    (hs : (if s.typed then d.ctx.sidOfString s.uri else .ok Sid.empty) = .ok s')
    (hroot : d.ctx.getAs s' key = .ok root) (ht : root.typed = true)
    (hstar : Str.hasChar '*' root.string = true) (hp : d.ctx.parent root = .ok rp)
    (hrp : (Str.hasChar '*' rp.string && !(Sid.eqv root rp)) = false) :
    d.constStar w fuel key values parent [s] = d.appendValues key values root := by
  rw [DCtx.constStar.eq_2, DCtx.constStar.eq_1]
  simp only [hs, hroot, ht, hstar, hp, hrp, Bool.not_true, Bool.false_eq_true, if_false]
  cases d.appendValues key values root <;> simp

/-- nothing to search: the root itself -/
theorem constStar_concrete (s s' root : Sid)
    (hs : (if s.typed then d.ctx.sidOfString s.uri else .ok Sid.empty) = .ok s')
    (hroot : d.ctx.getAs s' key = .ok root) (ht : root.typed = true)
    (hstar : Str.hasChar '*' root.string = false) :
    d.constStar w fuel key values parent [s] = .ok [root.string] := by
  rw [DCtx.constStar.eq_2, DCtx.constStar.eq_1]
  simp only [hs, hroot, ht, hstar, Bool.not_true, Bool.not_false, Bool.false_eq_true, if_false,
    if_true, List.append_nil]

/-- the parent is a search and there is no parent source: `SpilException` -/
theorem constStar_no_parent (s s' root rp : Sid)
    (hs : (if s.typed then d.ctx.sidOfString s.uri else .ok Sid.empty) = .ok s')
    (hroot : d.ctx.getAs s' key = .ok root) (ht : root.typed = true)
    (hstar : Str.hasChar '*' root.string = true) (hp : d.ctx.parent root = .ok rp)
    (hrp : (Str.hasChar '*' rp.string && !(Sid.eqv root rp)) = true) :
    d.constStar w fuel key values none [s] = .error .spil := by
  rw [DCtx.constStar.eq_2, DCtx.constStar.eq_1]
  simp only [hs, hroot, ht, hstar, hp, hrp, Bool.not_true, Bool.false_eq_true, if_false, if_true]

end constStar

/-! ### what `Finder.find` does not depend on -/

/-- when `Finder.find` answers, the search list handed to `do_find` does not depend on `do_find` -/
theorem findVia_of_ok (c : Ctx) (f g : List Sid → Except Err (List Str)) (s : Sid) (r : List Str)
    (h : findVia c f s = .ok r) : ∃ ss, f ss = .ok r ∧ findVia c g s = g ss := by
  unfold findVia at h ⊢
  cases h1 : (if s.typed then c.sidOfString s.uri else Except.ok Sid.empty) with
  | error e => rw [h1] at h; cases h
  | ok sid =>
    rw [h1] at h
    simp only at h ⊢
    split at h
    · cases h
    · next ss _ => exact ⟨ss, h, rfl⟩

end AllL
