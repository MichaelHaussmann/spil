/-
  Spil.Lemmas.DetWords — languages of closed placeholder expressions (`seqOf`, `altsOf?`) as words
  over class sequences; prefix-free / suffix-free vocabularies have unique prefixes / suffixes.
-/
import Spil.Spec.PathWF
import Spil.Lemmas.ReRun

namespace Det

open Spec

/-- `u` is a word of the class sequence `w`: same length, pointwise `Cls.test` -/
def matchesSeq (e : Env) : List Cls → Str → Prop
  | [], [] => True
  | k :: ks, c :: cs => k.test e c = true ∧ matchesSeq e ks cs
  | [], _ :: _ => False
  | _ :: _, [] => False

@[simp] theorem matchesSeq_nil (e : Env) (u : Str) : matchesSeq e [] u ↔ u = [] := by
  cases u <;> simp [matchesSeq]

@[simp] theorem matchesSeq_cons_nil (e : Env) (k : Cls) (ks : List Cls) :
    matchesSeq e (k :: ks) [] ↔ False := by simp [matchesSeq]

@[simp] theorem matchesSeq_cons_cons (e : Env) (k : Cls) (ks : List Cls) (c : Char) (cs : Str) :
    matchesSeq e (k :: ks) (c :: cs) ↔ k.test e c = true ∧ matchesSeq e ks cs := by
  simp [matchesSeq]

theorem matchesSeq_length (e : Env) : ∀ (w : List Cls) (u : Str), matchesSeq e w u → u.length = w.length
  | [], u, h => by simp at h; simp [h]
  | k :: ks, [], h => by simp at h
  | k :: ks, c :: cs, h => by
    simp at h
    simp [matchesSeq_length e ks cs h.2]

theorem matchesSeq_append (e : Env) : ∀ (a b : List Cls) (u : Str),
    matchesSeq e (a ++ b) u ↔ ∃ u1 u2, u = u1 ++ u2 ∧ matchesSeq e a u1 ∧ matchesSeq e b u2
  | [], b, u => by
    simp only [List.nil_append, matchesSeq_nil]
    constructor
    · intro h; exact ⟨[], u, rfl, rfl, h⟩
    · rintro ⟨u1, u2, rfl, rfl, h⟩; simpa using h
  | k :: ks, b, [] => by simp
  | k :: ks, b, c :: cs => by
    simp only [List.cons_append, matchesSeq_cons_cons, matchesSeq_append e ks b cs]
    constructor
    · rintro ⟨hk, u1, u2, rfl, h1, h2⟩
      exact ⟨c :: u1, u2, rfl, by simp [hk, h1], h2⟩
    · rintro ⟨u1, u2, hu, h1, h2⟩
      cases u1 with
      | nil => simp at h1
      | cons d ds =>
        simp at hu h1
        obtain ⟨rfl, rfl⟩ := hu
        exact ⟨h1.1, ds, u2, rfl, h1.2, h2⟩

theorem matchesSeq_reverse (e : Env) : ∀ (w : List Cls) (u : Str),
    matchesSeq e w u → matchesSeq e w.reverse u.reverse
  | [], u, h => by simp at h; simp [h]
  | k :: ks, [], h => by simp at h
  | k :: ks, c :: cs, h => by
    simp at h
    simp only [List.reverse_cons]
    rw [matchesSeq_append]
    exact ⟨cs.reverse, [c], rfl, matchesSeq_reverse e ks cs h.2, by simp [h.1]⟩

theorem matchesSeq_not_mem (e : Env) (c₀ : Char) : ∀ (w : List Cls) (u : Str),
    (∀ k ∈ w, ∀ c, k.test e c = true → c ≠ c₀) → matchesSeq e w u → c₀ ∉ u
  | [], u, _, h => by simp at h; simp [h]
  | k :: ks, [], _, h => by simp at h
  | k :: ks, c :: cs, hq, h => by
    simp at h
    rw [List.mem_cons, not_or]
    exact ⟨(hq k (by simp) _ h.1).symm,
      matchesSeq_not_mem e c₀ ks cs (fun k' hk' => hq k' (by simp [hk'])) h.2⟩

theorem matchesSeq_lits (e : Env) : ∀ (s u : Str), matchesSeq e (s.map Cls.lit) u → u = s
  | [], u, h => by simpa using h
  | c :: cs, [], h => by simp at h
  | c :: cs, d :: ds, h => by
    simp only [List.map_cons, matchesSeq_cons_cons, Cls.test, beq_iff_eq] at h
    rw [h.1, matchesSeq_lits e cs ds h.2]

/-! ### what closed expressions match -/

theorem seqOf_seq (a b : Re) (w : List Cls) : seqOf (.seq a b) = some w ↔
    ∃ x y, seqOf a = some x ∧ seqOf b = some y ∧ w = x ++ y := by
  simp only [seqOf]
  cases seqOf a <;> cases seqOf b <;> simp [eq_comm]

theorem matches_seqOf (e : Env) (r : Re) : ∀ (w : List Cls), seqOf r = some w →
    ∀ (m : Str) (c : Caps), Re.Matches e r m c ↔ matchesSeq e w m ∧ c = [] := by
  induction r with
  | eps =>
    intro w h m c
    simp [seqOf] at h; subst h
    constructor
    · intro h; cases h; exact ⟨by simp, rfl⟩
    · rintro ⟨hm, rfl⟩; rw [(matchesSeq_nil e m).mp hm]; exact .eps
  | cls k =>
    intro w h m c
    have hw : w = [k] := by cases k <;> simp [seqOf] at h <;> simp [h]
    subst hw
    constructor
    · intro h; cases h with | cls ht => exact ⟨by simp [ht], rfl⟩
    · rintro ⟨hm, rfl⟩
      match m, hm with
      | [d], hm => exact .cls (by simpa using hm)
  | seq a b iha ihb =>
    intro w h m c
    obtain ⟨x, y, ha, hb, rfl⟩ := (seqOf_seq a b w).mp h
    rw [matchesSeq_append]
    constructor
    · intro h
      cases h with
      | seq h1 h2 =>
        obtain ⟨e1, rfl⟩ := (iha x ha _ _).mp h1
        obtain ⟨e2, rfl⟩ := (ihb y hb _ _).mp h2
        exact ⟨⟨_, _, rfl, e1, e2⟩, rfl⟩
    · rintro ⟨⟨u1, u2, rfl, h1, h2⟩, rfl⟩
      exact .seq ((iha x ha _ _).mpr ⟨h1, rfl⟩) ((ihb y hb _ _).mpr ⟨h2, rfl⟩)
  | _ => intro w h; simp [seqOf] at h

theorem altsOf_induction {P : Re → List (List Cls) → Prop}
    (hseq : ∀ r w, seqOf r = some w → P r [w])
    (hcgrp : ∀ r alts, P r alts → P (.cgrp r) alts)
    (halt : ∀ a b x y, P a x → P b y → P (.alt a b) (x ++ y)) :
    ∀ r alts, altsOf? r = some alts → P r alts := by
  intro r
  induction r with
  | cgrp a ih => intro alts h; exact hcgrp a alts (ih alts (by simpa [altsOf?] using h))
  | alt a b iha ihb =>
    intro alts h
    simp only [altsOf?] at h
    match ha : altsOf? a, hb : altsOf? b with
    | none, _ => rw [ha] at h; simp at h
    | some x, none => rw [ha, hb] at h; simp at h
    | some x, some y =>
      rw [ha, hb] at h
      cases h
      exact halt a b x y (iha x ha) (ihb y hb)
  | _ =>
    intro alts h
    simp only [altsOf?, Option.map_eq_some_iff] at h
    obtain ⟨w, hw, rfl⟩ := h
    exact hseq _ w hw

theorem matches_altsOf (e : Env) : ∀ (r : Re) (alts : List (List Cls)), altsOf? r = some alts →
    ∀ (m : Str) (c : Caps), Re.Matches e r m c ↔ (∃ a ∈ alts, matchesSeq e a m) ∧ c = [] := by
  apply altsOf_induction
  · intro r w hw m c; rw [matches_seqOf e r w hw]; simp
  · intro r alts ih m c
    rw [← ih]
    exact ⟨fun h => by cases h with | cgrp h => exact h, .cgrp⟩
  · intro a b x y iha ihb m c
    simp only [List.mem_append, or_and_right, exists_or, ← iha, ← ihb]
    constructor
    · intro h
      cases h with
      | altL h => exact Or.inl h
      | altR h => exact Or.inr h
    · rintro (h | h)
      · exact .altL h
      · exact .altR h

theorem accepts_altsOf (e : Env) (r : Re) (alts : List (List Cls)) (h : altsOf? r = some alts)
    (u : Str) : r.accepts e u = true ↔ ∃ a ∈ alts, matchesSeq e a u := by
  simp only [accepts_iff_matches, matches_altsOf e r alts h, exists_and_left, exists_eq, and_true]

theorem seqOf_noGrp (r : Re) : ∀ w, seqOf r = some w → r.noGrp = true := by
  induction r with
  | seq a b iha ihb =>
    intro w h
    obtain ⟨x, y, ha, hb, _⟩ := (seqOf_seq a b w).mp h
    simp [Re.noGrp, iha x ha, ihb y hb]
  | grp n a _ => intro w h; simp [seqOf] at h
  | _ => intro w h; simp [Re.noGrp] <;> simp [seqOf] at h

theorem altsOf_noGrp (r : Re) : ∀ alts, altsOf? r = some alts → r.noGrp = true := by
  revert r
  apply altsOf_induction
  · exact seqOf_noGrp
  · intro r _ ih; exact ih
  · intro a b _ _ iha ihb; simp [Re.noGrp, iha, ihb]

/-! ### prefix-free vocabularies -/

theorem clsMeet_sound (e : Env) (k k' : Cls) (c : Char) (h : k.test e c = true)
    (h' : k'.test e c = true) : clsMeet e k k' = true := by
  cases k <;> cases k' <;> simp_all [clsMeet, Cls.test]

theorem prefixCompat_of (e : Env) : ∀ (a b : List Cls) (u u' x : Str),
    matchesSeq e a u → matchesSeq e b u' → u' = u ++ x → prefixCompat e a b = true
  | [], _, _, _, _, _, _, _ => by simp [prefixCompat]
  | k :: ks, b, [], _, _, h, _, _ => by simp at h
  | k :: ks, [], c :: cs, u', x, _, h', hx => by
    simp at h'; subst h'; simp at hx
  | k :: ks, k' :: ks', c :: cs, [], x, _, h', _ => by simp at h'
  | k :: ks, k' :: ks', c :: cs, c' :: cs', x, h, h', hx => by
    simp at h h' hx
    obtain ⟨rfl, hx⟩ := hx
    simp only [prefixCompat, Bool.and_eq_true]
    exact ⟨clsMeet_sound e k k' c' h.1 h'.1, prefixCompat_of e ks ks' cs cs' x h.2 h'.2 hx⟩

theorem prefixFree_not_proper (e : Env) (alts : List (List Cls)) (hpf : prefixFree e alts = true)
    (a b : List Cls) (ha : a ∈ alts) (hb : b ∈ alts) (u u' : Str) (d : Char) (ds : Str)
    (hu : matchesSeq e a u) (hu' : matchesSeq e b u') (hy : u' = u ++ d :: ds) : False := by
  simp only [prefixFree, List.all_eq_true, Bool.not_eq_true', Bool.and_eq_false_iff,
    decide_eq_false_iff_not] at hpf
  have hc := prefixCompat_of e a b u u' (d :: ds) hu hu' hy
  rcases hpf a ha b hb with h | h
  · apply h
    rw [← matchesSeq_length e a u hu, ← matchesSeq_length e b u' hu', hy]
    simp
  · rw [hc] at h
    cases h

theorem prefixFree_unique (e : Env) (alts : List (List Cls)) (hpf : prefixFree e alts = true)
    (a b : List Cls) (ha : a ∈ alts) (hb : b ∈ alts) (u u' x x' : Str)
    (hu : matchesSeq e a u) (hu' : matchesSeq e b u') (heq : u ++ x = u' ++ x') : u = u' := by
  rcases List.append_eq_append_iff.mp heq with ⟨y, hy, _⟩ | ⟨y, hy, _⟩
  · cases y with
    | nil => simpa using hy.symm
    | cons d ds => exact (prefixFree_not_proper e alts hpf a b ha hb u u' d ds hu hu' hy).elim
  · cases y with
    | nil => simpa using hy
    | cons d ds => exact (prefixFree_not_proper e alts hpf b a hb ha u' u d ds hu' hu hy).elim

theorem suffixFree_unique (e : Env) (alts : List (List Cls)) (hsf : suffixFree e alts = true)
    (a b : List Cls) (ha : a ∈ alts) (hb : b ∈ alts) (u u' x x' : Str)
    (hu : matchesSeq e a u) (hu' : matchesSeq e b u') (heq : x ++ u = x' ++ u') : u = u' := by
  have := prefixFree_unique e (alts.map List.reverse) hsf a.reverse b.reverse
    (List.mem_map.mpr ⟨a, ha, rfl⟩) (List.mem_map.mpr ⟨b, hb, rfl⟩)
    u.reverse u'.reverse x.reverse x'.reverse (matchesSeq_reverse e a u hu)
    (matchesSeq_reverse e b u' hu') (by rw [← List.reverse_append, ← List.reverse_append, heq])
  simpa using this

end Det
