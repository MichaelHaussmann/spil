/-
  Spil.Lemmas.Cache — helper lemmas for C13: the store invariant of the memoising wrappers,
  injectivity of the repaired key, and invariance of Python's binding under reordering of the
  keyword items.
-/
import Spil.Model.Cache
import Spil.Lemmas.Dict

namespace Cache

/-! ### store invariant and transparency -/

/-- every stored entry holds the answer of the wrapped function for every (admissible) call with
    that key -/
def Inv {V K R} (P : Call V → Prop) (key : Call V → K) (f : Call V → R) (st : Store K R) : Prop :=
  ∀ p ∈ st, ∀ a, P a → key a = p.1 → p.2 = f a

theorem Inv.nil {V K R} (P : Call V → Prop) (key : Call V → K) (f : Call V → R) : Inv P key f [] := by
  intro p hp; cases hp

theorem Inv.mono {V K R} {P : Call V → Prop} {key : Call V → K} {f : Call V → R} {st st' : Store K R}
    (h : Inv P key f st) (hsub : ∀ p ∈ st', p ∈ st) : Inv P key f st' :=
  fun p hp => h p (hsub p hp)

theorem Inv.evictIf {V K R} {P : Call V → Prop} {key : Call V → K} {f : Call V → R} {st : Store K R}
    (h : Inv P key f st) (max : Nat) (evict : Store K R → Store K R)
    (hev : ∀ st, ∀ p ∈ evict st, p ∈ st) :
    Inv P key f (if st.length ≥ max then evict st else st) := by
  split
  · exact h.mono (hev st)
  · exact h

theorem Inv.snoc {V K R} {P : Call V → Prop} {key : Call V → K} {f : Call V → R} {st : Store K R}
    (hcong : ∀ a b, P a → P b → key a = key b → f a = f b)
    (h : Inv P key f st) (c : Call V) (hc : P c) : Inv P key f (st ++ [(key c, f c)]) := by
  intro p hp a ha hk
  rcases List.mem_append.1 hp with hp | hp
  · exact h p hp a ha hk
  · have : p = (key c, f c) := by simpa using hp
    subst this
    exact hcong c a hc ha hk.symm

theorem stepHit_spec {V K R} [DecidableEq K] (P : Call V → Prop) (key : Call V → K) (f : Call V → R)
    (truthy : R → Bool)
    (hcong : ∀ a b, P a → P b → key a = key b → f a = f b) (max : Nat)
    (evict : Store K R → Store K R) (hev : ∀ st, ∀ p ∈ evict st, p ∈ st)
    (st : Store K R) (hinv : Inv P key f st) (c : Call V) (hc : P c) :
    Inv P key f (stepHit key f truthy max evict st c).1 ∧
      (stepHit key f truthy max evict st c).2 = f c := by
  unfold stepHit
  split
  · rename_i r hr
    exact ⟨hinv, hinv _ (Lst.lookup_mem st _ _ hr) c hc rfl⟩
  · dsimp only
    split
    · exact ⟨(hinv.evictIf max evict hev).snoc hcong c hc, rfl⟩
    · exact ⟨hinv.evictIf max evict hev, rfl⟩

theorem runHist_cons {S C R} (step : S → C → S × R) (st : S) (c : C) (cs : List C) :
    runHist step st (c :: cs) = (step st c).2 :: runHist step (step st c).1 cs := rfl

theorem runHist_transparent {S C R} (step : S → C → S × R) (f : C → R) (I : S → Prop) (P : C → Prop)
    (hstep : ∀ st c, I st → P c → I (step st c).1 ∧ (step st c).2 = f c)
    (st : S) (hst : I st) (hist : List C) (hP : ∀ c ∈ hist, P c) :
    runHist step st hist = hist.map f := by
  induction hist generalizing st with
  | nil => rfl
  | cons c cs ih =>
    obtain ⟨h1, h2⟩ := hstep st c hst (hP c List.mem_cons_self)
    rw [runHist_cons, h2, ih _ h1 (fun c' hc' => hP c' (List.mem_cons_of_mem _ hc'))]
    rfl

theorem stepLru_eq_stepHit {V K R} [DecidableEq K] (key : Call V → K) (f : Call V → R) (max : Nat)
    (evict : Store K R → Store K R) :
    stepLru key f max evict = stepHit key f (fun _ => true) max evict := by
  funext st c
  unfold stepLru stepHit
  split <;> simp

theorem hit_transparent {V K R} [DecidableEq K] (P : Call V → Prop) (key : Call V → K) (f : Call V → R)
    (truthy : R → Bool) (hcong : ∀ a b, P a → P b → key a = key b → f a = f b) (max : Nat)
    (evict : Store K R → Store K R) (hev : ∀ st, ∀ p ∈ evict st, p ∈ st) (hist : List (Call V))
    (hP : ∀ c ∈ hist, P c) :
    runHist (stepHit key f truthy max evict) [] hist = hist.map f :=
  runHist_transparent _ f (Inv P key f) P
    (fun st c hst hc => stepHit_spec P key f truthy hcong max evict hev st hst c hc)
    [] (Inv.nil _ key f) hist hP

/-- what goes wrong when the key does not determine the answer (`hcong` of `hit_transparent`) -/
theorem runHist_lru_same_key {V K R} [DecidableEq K] (key : Call V → K) (f : Call V → R) (max : Nat)
    (evict : Store K R → Store K R) (hmax : 0 < max) (a b : Call V) (hk : key a = key b) :
    runHist (stepLru key f max evict) [] [a, b] = [f a, f a] := by
  have h1 : stepLru key f max evict [] a = ([(key a, f a)], f a) := by
    have : ¬ ([] : Store K R).length ≥ max := Nat.not_le.2 hmax
    simp only [stepLru, List.lookup_nil, if_neg this, List.nil_append]
  have h2 : stepLru key f max evict [(key a, f a)] b = ([(key a, f a)], f a) := by
    simp [stepLru, hk]
  simp only [runHist, h1, h2]

/-! ### the repaired key is injective -/

def KeyPart.notVal {V} : KeyPart V → Prop
  | .val _ => False
  | _ => True

theorem val_prefix_inj {V} (as bs : List V) (X Y : List (KeyPart V))
    (hX : ∀ x, X.head? = some x → KeyPart.notVal x) (hY : ∀ y, Y.head? = some y → KeyPart.notVal y)
    (h : as.map KeyPart.val ++ X = bs.map KeyPart.val ++ Y) : as = bs ∧ X = Y := by
  induction as generalizing bs with
  | nil =>
    cases bs with
    | nil => exact ⟨rfl, by simpa using h⟩
    | cons b bs =>
      exfalso
      simp only [List.map_nil, List.nil_append, List.map_cons, List.cons_append] at h
      exact hX (.val b) (by rw [h]; rfl)
  | cons a as ih =>
    cases bs with
    | nil =>
      exfalso
      simp only [List.map_nil, List.nil_append, List.map_cons, List.cons_append] at h
      exact hY (.val a) (by rw [← h]; rfl)
    | cons b bs =>
      simp only [List.map_cons, List.cons_append, List.cons.injEq, KeyPart.val.injEq] at h
      obtain ⟨hab, h⟩ := h
      obtain ⟨h1, h2⟩ := ih bs h
      exact ⟨by rw [hab, h1], h2⟩

def kwPart {V} (kw : List (Str × V)) : List (KeyPart V) :=
  if kw.isEmpty then [] else .mark :: (sortKw kw).map (fun p => .item p.1 p.2)

theorem newKey_eq {V} (c : Call V) : newKey c = c.args.map KeyPart.val ++ kwPart c.kwargs := rfl

theorem kwPart_head {V} (kw : List (Str × V)) (x : KeyPart V) (h : (kwPart kw).head? = some x) :
    KeyPart.notVal x := by
  unfold kwPart at h
  split at h
  · simp at h
  · simp only [List.head?_cons, Option.some.injEq] at h
    subst h; trivial

theorem kwPart_inj {V} (k₁ k₂ : List (Str × V)) (h : kwPart k₁ = kwPart k₂) :
    sortKw k₁ = sortKw k₂ := by
  unfold kwPart at h
  cases k₁ with
  | nil =>
    cases k₂ with
    | nil => rfl
    | cons q k₂ => simp at h
  | cons p k₁ =>
    cases k₂ with
    | nil => simp at h
    | cons q k₂ =>
      simp only [List.isEmpty_cons, Bool.false_eq_true, if_false, List.cons.injEq, true_and] at h
      exact (List.map_inj_right fun p q e => by cases p; cases q; cases e; rfl).1 h

theorem newKey_inj {V} (a b : Call V) (h : newKey a = newKey b) :
    a.args = b.args ∧ sortKw a.kwargs = sortKw b.kwargs := by
  rw [newKey_eq, newKey_eq] at h
  obtain ⟨h1, h2⟩ := val_prefix_inj _ _ _ _ (kwPart_head _) (kwPart_head _) h
  exact ⟨h1, kwPart_inj _ _ h2⟩

/-! ### binding is invariant under reordering of the keyword items -/

theorem insertKw_perm {V} (p : Str × V) (l : List (Str × V)) : (insertKw p l).Perm (p :: l) := by
  induction l with
  | nil => exact List.Perm.refl _
  | cons q qs ih =>
    unfold insertKw
    split
    · exact List.Perm.refl _
    · exact (List.Perm.cons q ih).trans (List.Perm.swap p q qs)

theorem sortKw_perm {V} (l : List (Str × V)) : (sortKw l).Perm l := by
  induction l with
  | nil => exact List.Perm.refl _
  | cons p ps ih => exact (insertKw_perm p (sortKw ps)).trans (List.Perm.cons p ih)

theorem sortKw_eq_nil {V} (l : List (Str × V)) (h : sortKw l = []) : l = [] :=
  List.Perm.eq_nil (h ▸ (sortKw_perm l).symm)

theorem bindGo_perm {V} (sig : Sig V) (as : List V) (k₁ k₂ : List (Str × V)) (h : k₁.Perm k₂)
    (hnd : (k₁.map (·.1)).Nodup) : bindGo sig as k₁ = bindGo sig as k₂ := by
  induction sig generalizing as k₁ k₂ with
  | nil =>
    cases as with
    | nil =>
      cases k₁ with
      | nil => rw [h.nil_eq]
      | cons p k₁ =>
        cases k₂ with
        | nil => exact absurd h.eq_nil (by simp)
        | cons q k₂ => simp [bindGo]
    | cons a as => simp [bindGo]
  | cons nd ps ih =>
    obtain ⟨n, d⟩ := nd
    cases as with
    | cons a as => simp only [bindGo]; rw [ih as k₁ k₂ h hnd]
    | nil =>
      simp only [bindGo]
      rw [Lst.lookup_perm k₁ k₂ h hnd n]
      split
      · rw [ih [] _ _ (h.filter _) (hnd.sublist (List.filter_sublist.map _))]
      · rw [ih [] k₁ k₂ h hnd]
      · rfl

end Cache
