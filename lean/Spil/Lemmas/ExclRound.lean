/-
  Spil.Lemmas.ExclRound — from template exclusion to `path_to_dict`: `resolve_first` returns the
  Sid's own template on the Sid's own path, and the values are mapped back to the Sid's fields;
  and `dict_to_path` gives an admissible Sid its rendered path (`dictToPath_own`).
-/
import Spil.Lemmas.ExclTpl
import Spil.Lemmas.DetC06

namespace Excl

open Spec Det

/-! ### `resolve_first` on a path rendered by one of the templates -/

/-- every earlier template is skipped, the Sid's own template answers -/
theorem resolveFirstGo_own (e : Env) (syms : List Str) (cd : Bool) (ty : Str) (t : Template)
    (data : Dict) (w : Str) (d : Dict) (hok : pathTplOk e t = true)
    (hv : valuesOk e t data = true) (hc : concreteOk syms t data = true)
    (hw : Template.format t data = some w) (hown : Resolver.resolveTpl e cd t w = .ok (some d)) :
    ∀ ts : List (Str × Template), exclEarlier e syms ts = true →
      (∀ lt ∈ ts, pathTplOk e lt.2 = true) → ts.lookup ty = some t →
      Resolver.resolveFirstGo e cd w ts = .ok (some (ty, d))
  | [], _, _, hl => by simp at hl
  | (l, t') :: rest, hex, hall, hl => by
    simp only [exclEarlier, Bool.and_eq_true, List.all_eq_true] at hex
    rw [List.lookup_cons] at hl
    cases hb : ty == l with
    | true =>
      rw [hb] at hl
      simp only [Option.some.injEq] at hl
      subst hl
      have : ty = l := by simpa using hb
      subst this
      simp only [Resolver.resolveFirstGo, hown]
    | false =>
      rw [hb] at hl
      have hmem := Lst.lookup_mem rest ty t hl
      have hx : tplExcl e syms t' t = true := hex.1 (ty, t) hmem
      have hskip := resolveTpl_none e syms cd t' t data w (hall (l, t') (by simp)) hok hx hv hc hw
      simp only [Resolver.resolveFirstGo, hskip]
      exact resolveFirstGo_own e syms cd ty t data w d hok hv hc hw hown rest hex.2
        (fun lt h => hall lt (by simp [h])) hl

theorem resolveFirst_own (e : Env) (syms : List Str) (r : Resolver) (ty : Str) (t : Template)
    (data : Dict) (w : Str) (d : Dict) (hok : pathTplOk e t = true)
    (hv : valuesOk e t data = true) (hc : concreteOk syms t data = true)
    (hw : Template.format t data = some w) (hne : w ≠ [])
    (hown : Resolver.resolveTpl e r.checkDup t w = .ok (some d))
    (hex : exclEarlier e syms r.templates = true)
    (hall : ∀ lt ∈ r.templates, pathTplOk e lt.2 = true) (hl : r.lookup ty = some t) :
    Resolver.resolveFirst e r w = .ok (some (ty, d)) := by
  have hwe : w.isEmpty = false := by simpa using hne
  unfold Resolver.resolveFirst
  simp only [hwe, Bool.false_eq_true, if_false]
  exact resolveFirstGo_own e syms r.checkDup ty t data w d hok hv hc hw hown r.templates hex hall hl

/-! ### `dict_to_path` on an admissible Sid -/

/-- `dict_to_path` on the fields of an admissible Sid gives the rendered path, when that is
    already a normal path: the key-set test and the reverse check of `format_one` pass -/
theorem dictToPath_own (c : Ctx) (pc : PathConf) (fields : Dict) (ty : Str) (t : Template)
    (p : Str) (ht : pc.resolver.lookup ty = some t)
    (hok : pathTplOk c.env t = true) (hfne : fields ≠ [])
    (hsub : ∀ k ∈ fields.map (·.1), k ∈ Template.keys t)
    (hv : valuesOk c.env t (Ctx.pathData pc fields (Template.keys t)) = true)
    (hf : Template.format t (Ctx.pathData pc fields (Template.keys t)) = some p)
    (hnorm : PurePath.normalize p = p) : c.dictToPath pc fields ty = .ok p := by
  have hne : Template.keys t ≠ [] := by
    intro h0
    cases fields with
    | nil => exact hfne rfl
    | cons q _ => have := hsub q.1 (by simp); rw [h0] at this; cases this
  have hkeys : Dict.keysEq (Ctx.pathData pc fields (Template.keys t)) (Template.keys t) = true := by
    rw [Dict.keysEq_iff]
    intro k
    constructor
    · intro hk
      rcases pathData_keys_sub pc fields _ k hk with h | h
      · exact hsub k h
      · exact h
    · intro hk
      obtain ⟨ex, hm⟩ := (mem_keys k t).mp hk
      obtain ⟨v, hg, _⟩ := (valuesOk_iff c.env t _).mp hv k ex hm
      exact get_some_mem _ k v hg
  have hpne : p ≠ [] := by rw [← hnorm]; exact PathL.normalize_ne_nil p
  have hfo := formatOne_own c.env pc.resolver ty t ht hok _ hv hkeys hne p hf hpne
  rw [PathL.dictToPath_eq c pc fields ty t p hfne ht hne hkeys hf, hfo]
  simp [Except.bind, hnorm]

/-! ### the values come back -/

theorem pathToDict_own (c : Ctx) (pc : PathConf) (x : Sid) (t : Template) (kts : List Str)
    (p : Str) (d : Dict)
    (hres : Resolver.resolveFirst c.env pc.resolver p = .ok (some (x.type, d)))
    (hget : ∀ k, d.get k = (Ctx.pathData pc x.fields (Template.keys t)).get k)
    (hkeys : d.map (·.1) = Template.keys t)
    (hkt : c.cfg.sid.keyTypes.lookup (((Str.splitStr x.type c.cfg.sid.sep).head?).getD []) =
      some kts)
    (horder : kts.filter (fun k => (Template.keys t).contains k) = x.fields.map (·.1))
    (hnd : (x.fields.map (·.1)).Nodup)
    (hback : Ctx.mapToSid pc (Ctx.pathData pc x.fields []) = x.fields) :
    c.pathToDict pc p none = .ok (some (x.type, x.fields)) := by
  rw [PathL.pathToDict_none_eq, hres]
  simp only [hkt, PathL.readFields]
  have hfilter : kts.filter (fun k => (Ctx.mapToSid pc d).hasKey k) = x.fields.map (·.1) := by
    rw [← horder]
    refine List.filter_congr fun k _ => ?_
    rw [Bool.eq_iff_iff, Dict.hasKey_iff_mem, mapToSid_keys, hkeys, List.contains_iff_mem]
  rw [hfilter]
  congr 3
  conv => rhs; rw [← Dict.map_keys_get x.fields hnd]
  refine List.map_congr_left fun k hk => ?_
  obtain ⟨v, hv⟩ := Dict.hasKey_get x.fields k ((Dict.hasKey_iff_mem _ _).2 hk)
  rw [mapToSid_get, hget, pathData_get_of_some pc _ _ k v hv,
    ← pathData_get_of_some pc _ [] k v hv, ← mapToSid_get, hback]

end Excl
