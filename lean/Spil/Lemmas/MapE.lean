/-
  Spil.Lemmas.MapE — `Ctx.mapE` / `Ctx.flatMapE` (an `Except` sequenced over a list).
  Success is pointwise success (`mapE_cons_eq_ok`, `mapE_eq_ok`), an error is the error of a
  member (`mapE_error`); `flatMapE` is `mapE` followed by `flatten` (`flatMapE_eq`).
  (`Model.Unfold` is imported because `mapE` and `flatMapE` are defined there.)
-/
import Spil.Model.Unfold

theorem Except.ok_of_no_error {ε α : Type _} (r : Except ε α) (h : ∀ x, r ≠ .error x) :
    ∃ a, r = .ok a := by
  cases r with
  | ok a => exact ⟨a, rfl⟩
  | error x => exact absurd rfl (h x)

theorem Except.map_eq_ok {ε α β : Type _} (f : α → β) (x : Except ε α) (r : β) :
    x.map f = .ok r ↔ ∃ a, x = .ok a ∧ f a = r := by
  cases x with
  | error e => exact ⟨fun h => (by cases h), fun ⟨_, h, _⟩ => (by cases h)⟩
  | ok a =>
    exact ⟨fun h => ⟨a, rfl, Except.ok.inj h⟩, fun ⟨_, h, e⟩ => by cases h; exact congrArg _ e⟩

theorem Except.map_eq_error_iff {ε α β : Type} (m : Except ε α) (g : α → β) (e : ε) :
    m.map g = .error e ↔ m = .error e := by
  cases m with
  | error e' => exact ⟨fun h => (by cases h; rfl), fun h => (by cases h; rfl)⟩
  | ok a => exact ⟨fun h => (by cases h), fun h => (by cases h)⟩

namespace Ctx

universe u v w
variable {α : Type u} {β : Type v} {γ : Type w}

theorem mapE_cons (f : α → Except Err β) (a : α) (l : List α) :
    mapE f (a :: l) = (f a).bind fun r => (mapE f l).map (r :: ·) := by
  simp only [mapE]
  cases f a with
  | error e => rfl
  | ok r => cases mapE f l <;> rfl

theorem mapE_cons_eq_ok (f : α → Except Err β) (a : α) (l : List α) (rs : List β) :
    mapE f (a :: l) = .ok rs ↔ ∃ r rs', f a = .ok r ∧ mapE f l = .ok rs' ∧ rs = r :: rs' := by
  simp only [mapE]
  cases f a with
  | error e => simp
  | ok r =>
    cases mapE f l with
    | error e => simp
    | ok rs' => simp [eq_comm]

/-- in this form, length and indexing follow from `List.map` -/
theorem mapE_eq_ok (f : α → Except Err β) (l : List α) (rs : List β) :
    mapE f l = .ok rs ↔ l.map f = rs.map .ok := by
  induction l generalizing rs with
  | nil => cases rs <;> simp [mapE]
  | cons a l ih => cases rs <;> simp [mapE_cons_eq_ok, ih]

theorem mapE_length (f : α → Except Err β) (l : List α) (rs : List β) (h : mapE f l = .ok rs) :
    rs.length = l.length := by
  simpa using (congrArg List.length ((mapE_eq_ok f l rs).1 h)).symm

theorem mapE_getElem? (f : α → Except Err β) (l : List α) (rs : List β) (h : mapE f l = .ok rs)
    (i : Nat) (x : α) (r : β) (hx : l[i]? = some x) (hr : rs[i]? = some r) : f x = .ok r := by
  simpa [hx, hr] using congrArg (·[i]?) ((mapE_eq_ok f l rs).1 h)

theorem mapE_mem (f : α → Except Err β) (l : List α) (rs : List β) (h : mapE f l = .ok rs)
    (y : β) : y ∈ rs ↔ ∃ x ∈ l, f x = .ok y := by
  induction l generalizing rs with
  | nil => cases h; simp
  | cons a l ih =>
    obtain ⟨r, rs', ha, hl, rfl⟩ := (mapE_cons_eq_ok f a l rs).1 h
    simp only [List.mem_cons, ih rs' hl, exists_eq_or_imp, ha, Except.ok.injEq, eq_comm (a := y)]

theorem mapE_ok_iff (f : α → Except Err β) (l : List α) :
    (∃ rs, mapE f l = .ok rs) ↔ ∀ x ∈ l, ∃ y, f x = .ok y := by
  induction l with
  | nil => simp [mapE]
  | cons a l ih =>
    simp only [List.forall_mem_cons, ← ih]
    constructor
    · rintro ⟨rs, h⟩
      obtain ⟨r, rs', ha, hl, rfl⟩ := (mapE_cons_eq_ok f a l rs).1 h
      exact ⟨⟨r, ha⟩, rs', hl⟩
    · rintro ⟨⟨r, ha⟩, rs', hl⟩
      exact ⟨r :: rs', (mapE_cons_eq_ok f a l _).2 ⟨r, rs', ha, hl, rfl⟩⟩

theorem mapE_error (f : α → Except Err β) (l : List α) (e : Err) (h : mapE f l = .error e) :
    ∃ x ∈ l, f x = .error e := by
  induction l with
  | nil => cases h
  | cons a l ih =>
    rw [mapE_cons] at h
    cases ha : f a with
    | error e' => rw [ha] at h; cases h; exact ⟨a, by simp, ha⟩
    | ok r =>
      cases hl : mapE f l with
      | error e' =>
        rw [ha, hl] at h; cases h
        obtain ⟨x, hx, hf⟩ := ih hl
        exact ⟨x, List.mem_cons_of_mem _ hx, hf⟩
      | ok rs => rw [ha, hl] at h; cases h

theorem mapE_error_of (f : α → Except Err β) (e : Err) (l : List α)
    (h : ∃ x ∈ l, f x = .error e) (hall : ∀ x ∈ l, ∀ e', f x = .error e' → e' = e) :
    mapE f l = .error e := by
  cases hm : mapE f l with
  | error e' =>
    obtain ⟨x, hx, hf⟩ := mapE_error f l e' hm
    rw [hall x hx e' hf]
  | ok rs =>
    obtain ⟨x, hx, hf⟩ := h
    obtain ⟨y, hy⟩ := (mapE_ok_iff f l).1 ⟨rs, hm⟩ x hx
    rw [hf] at hy; cases hy

theorem mapE_congr (f g : α → Except Err β) (l : List α) (h : ∀ x ∈ l, f x = g x) :
    mapE f l = mapE g l := by
  induction l with
  | nil => rfl
  | cons a l ih =>
    simp only [mapE, h a (by simp), ih (fun x hx => h x (List.mem_cons_of_mem _ hx))]

theorem mapE_eq_map (f : α → Except Err β) (g : α → β) (l : List α)
    (h : ∀ x ∈ l, f x = .ok (g x)) : mapE f l = .ok (l.map g) := by
  induction l with
  | nil => rfl
  | cons a l ih =>
    simp only [mapE, h a (by simp), ih (fun x hx => h x (List.mem_cons_of_mem _ hx)), List.map_cons]

theorem mapE_pure (g : α → β) (l : List α) : mapE (fun x => .ok (g x)) l = .ok (l.map g) :=
  mapE_eq_map _ g l fun _ _ => rfl

/-- `h = g ∘ f` in the `Except` sense -/
theorem mapE_comp (f : α → Except Err β) (g : β → Except Err γ) (h : α → Except Err γ)
    (hh : ∀ x y, f x = .ok y → h x = g y) (l : List α) (ys : List β) (hf : mapE f l = .ok ys) :
    mapE h l = mapE g ys := by
  induction l generalizing ys with
  | nil => cases hf; rfl
  | cons a l ih =>
    obtain ⟨r, rs', ha, hl, rfl⟩ := (mapE_cons_eq_ok f a l ys).1 hf
    simp only [mapE, hh a r ha, ih rs' hl]

theorem mapE_map (f : α → Except Err β) (g : β → γ) (l : List α) (rs : List β)
    (h : mapE f l = .ok rs) : mapE (fun x => (f x).map g) l = .ok (rs.map g) :=
  (mapE_comp f (fun y => .ok (g y)) _ (fun x y e => by rw [e]; rfl) l rs h).trans (mapE_pure g rs)

theorem mapE_append (f : α → Except Err β) (xs ys : List α) :
    mapE f (xs ++ ys) = (mapE f xs).bind fun a => (mapE f ys).map (a ++ ·) := by
  induction xs with
  | nil => cases h : mapE f ys <;> simp [mapE, Except.bind, Except.map, h]
  | cons x xs ih =>
    rw [List.cons_append, mapE_cons, mapE_cons, ih]
    cases f x with
    | error e => rfl
    | ok y => cases mapE f xs <;> cases mapE f ys <;> rfl

theorem mem_flatten_mapE (f : α → Except Err (List β)) (Q : α → β → Prop) (l : List α)
    (rs : List (List β)) (h : mapE f l = .ok rs)
    (hQ : ∀ a ∈ l, ∀ r, f a = .ok r → ∀ y, y ∈ r ↔ Q a y) :
    ∀ y, y ∈ rs.flatten ↔ ∃ a ∈ l, Q a y := by
  intro y
  simp only [List.mem_flatten, mapE_mem f l rs h]
  constructor
  · rintro ⟨r, ⟨a, ha, hr⟩, hy⟩; exact ⟨a, ha, (hQ a ha r hr y).1 hy⟩
  · rintro ⟨a, ha, hq⟩
    obtain ⟨r, hr⟩ := (mapE_ok_iff f l).1 ⟨rs, h⟩ a ha
    exact ⟨r, ⟨a, ha, hr⟩, (hQ a ha r hr y).2 hq⟩

/-- `mapE` of functions that succeed with characterised results succeeds, and its flattened
    result is characterised -/
theorem mapE_flatten_spec {α β} (f : α → Except Err (List β)) (Q : α → β → Prop) (l : List α)
    (h : ∀ a ∈ l, ∃ r, f a = .ok r ∧ ∀ y, y ∈ r ↔ Q a y) :
    ∃ rs, mapE f l = .ok rs ∧ ∀ y, y ∈ rs.flatten ↔ ∃ a ∈ l, Q a y := by
  obtain ⟨rs, hrs⟩ := (mapE_ok_iff f l).2 fun a ha => (h a ha).imp fun _ hr => hr.1
  refine ⟨rs, hrs, mem_flatten_mapE f Q l rs hrs fun a ha r hr => ?_⟩
  obtain ⟨r', hr', hm⟩ := h a ha
  cases hr.symm.trans hr'
  exact hm

/-! ### `flatMapE` -/

theorem flatMapE_eq (f : α → Except Err (List β)) (l : List α) :
    flatMapE f l = (mapE f l).map List.flatten := by
  unfold flatMapE
  cases mapE f l <;> rfl

theorem flatMapE_nil (f : α → Except Err (List β)) : flatMapE f [] = .ok [] := rfl

theorem flatMapE_cons (f : α → Except Err (List β)) (x : α) (xs : List α) :
    flatMapE f (x :: xs) = (f x).bind fun ys => (flatMapE f xs).map (ys ++ ·) := by
  rw [flatMapE_eq, flatMapE_eq, mapE_cons]
  cases f x with
  | error e => rfl
  | ok ys => cases mapE f xs <;> rfl

theorem flatMapE_singleton (f : α → Except Err (List β)) (x : α) : flatMapE f [x] = f x := by
  rw [flatMapE_cons, flatMapE_nil]
  cases f x <;> simp [Except.bind, Except.map]

theorem flatMapE_append (f : α → Except Err (List β)) (xs ys : List α) :
    flatMapE f (xs ++ ys) = (flatMapE f xs).bind fun a => (flatMapE f ys).map (a ++ ·) := by
  simp only [flatMapE_eq, mapE_append]
  cases mapE f xs <;> cases mapE f ys <;> simp [Except.bind, Except.map]

theorem flatMapE_eq_ok (f : α → Except Err (List β)) (l : List α) (r : List β) :
    flatMapE f l = .ok r ↔ ∃ rs, mapE f l = .ok rs ∧ r = rs.flatten := by
  rw [flatMapE_eq]
  cases mapE f l with
  | error e => simp [Except.map]
  | ok rs => simp [Except.map, eq_comm]

theorem flatMapE_of_mapE (f : α → Except Err (List β)) (l : List α) (rs : List (List β))
    (h : mapE f l = .ok rs) : flatMapE f l = .ok rs.flatten :=
  (flatMapE_eq_ok f l _).2 ⟨rs, h, rfl⟩

theorem flatMapE_mem (f : α → Except Err (List β)) (l : List α) (r : List β)
    (h : flatMapE f l = .ok r) (y : β) : y ∈ r ↔ ∃ x ∈ l, ∃ ys, f x = .ok ys ∧ y ∈ ys := by
  obtain ⟨rs, hrs, rfl⟩ := (flatMapE_eq_ok f l r).1 h
  exact mem_flatten_mapE f (fun x y => ∃ ys, f x = .ok ys ∧ y ∈ ys) l rs hrs
    (fun a _ r hr y => ⟨fun hy => ⟨r, hr, hy⟩, fun ⟨r', hr', hy⟩ => by rw [hr] at hr'; cases hr'; exact hy⟩) y

theorem flatMapE_ok_iff (f : α → Except Err (List β)) (l : List α) :
    (∃ r, flatMapE f l = .ok r) ↔ ∀ x ∈ l, ∃ ys, f x = .ok ys := by
  rw [← mapE_ok_iff]
  constructor
  · rintro ⟨r, h⟩
    obtain ⟨rs, hrs, _⟩ := (flatMapE_eq_ok f l r).1 h
    exact ⟨rs, hrs⟩
  · rintro ⟨rs, hrs⟩
    exact ⟨_, flatMapE_of_mapE f l rs hrs⟩

theorem flatMapE_error_of (f : α → Except Err (List β)) (e : Err) (l : List α)
    (h : ∃ x ∈ l, f x = .error e) (hall : ∀ x ∈ l, ∀ e', f x = .error e' → e' = e) :
    flatMapE f l = .error e := by
  rw [flatMapE_eq, mapE_error_of f e l h hall]; rfl

theorem flatMapE_eq_flatMap (f : α → Except Err (List β)) (g : α → List β) (l : List α)
    (h : ∀ x ∈ l, f x = .ok (g x)) : flatMapE f l = .ok (l.flatMap g) := by
  rw [flatMapE_of_mapE f l _ (mapE_eq_map f g l h), List.flatMap_def]

theorem flatMapE_filter (f : α → Except Err (List β)) (p : α → Bool) (g : α → β) (l : List α)
    (h : ∀ x ∈ l, f x = .ok (if p x then [g x] else [])) :
    flatMapE f l = .ok ((l.filter p).map g) := by
  rw [flatMapE_eq_flatMap f _ l h]
  congr 1
  induction l with
  | nil => rfl
  | cons v vs ih =>
    simp only [List.flatMap_cons, List.filter_cons, ih (fun x hx => h x (List.mem_cons_of_mem _ hx))]
    split <;> simp

end Ctx
