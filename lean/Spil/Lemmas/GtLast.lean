/-
  Spil.Lemmas.GtLast — the head of `sortedPick` (the overall greatest entry), one group only when
  the segments before '>' are literal, `FindInAll` when every search is routed to one path Finder,
  and the shape of `Sid.get_last`.
-/
import Spil.Lemmas.GtPath

namespace GtL

open Spec Find GlobL

/-! ### the first pick is the greatest entry of all -/

theorem head?_sortedPick (idx : Nat) (founds : List Str) (y : Str)
    (h : (sortedPick idx founds).head? = some y) : y ∈ founds ∧ ∀ z ∈ founds, segGe y z := by
  obtain ⟨t, h⟩ := List.head?_eq_some_iff.1 h
  have hp := sortedPick_pairwise idx founds
  rw [h, List.pairwise_cons] at hp
  refine ⟨((mem_sortedPick idx founds y).1 (h ▸ List.mem_cons_self)).1, fun z hz => ?_⟩
  -- the pick of the group of `z` is `y` or comes after `y`
  obtain ⟨r, hr, _, hrz⟩ := sortedPick_repr idx founds z hz
  rcases List.mem_cons.1 (h ▸ hr) with rfl | hr
  · exact hrz
  · exact segGe_of_segGt_of_segGe (hp.1 r hr) hrz

/-! ### literal segments before '>' : one group -/

theorem take_of_all2_glob (idx : Nat) {ps xs : List Str} (h : All2 Glob ps xs)
    (hlit : ∀ seg ∈ ps.take idx, '*' ∉ seg ∧ '?' ∉ seg ∧ '[' ∉ seg) : xs.take idx = ps.take idx := by
  induction h generalizing idx with
  | nil => simp
  | @cons a b as bs hab _ ih =>
    cases idx with
    | zero => simp
    | succ i =>
      simp only [List.take_succ_cons] at hlit ⊢
      obtain ⟨h1, h2, h3⟩ := hlit a (by simp)
      rw [(glob_literal a b h1 h2 h3).1 hab, ih i (fun seg hs => hlit seg (List.mem_cons_of_mem _ hs))]

theorem groupKey_of_glob (idx : Nat) (p x : Str) (hg : Glob p x)
    (hlit : ∀ seg ∈ (Str.splitOn '/' p).take idx, '*' ∉ seg ∧ '?' ∉ seg ∧ '[' ∉ seg) :
    groupKey idx x = (Str.splitOn '/' p).take idx :=
  take_of_all2_glob idx (Glob.comps hg) hlit

/-! ### `FindInAll` when every typed search goes to one path Finder -/

theorem findInAll_paths (d : DCtx) (w : World) (search : Str) (searches : List Sid) (i : Nat)
    (config : Option Str) (r : List Str)
    (hu : d.ctx.unfoldSearch search false false = .ok searches)
    (hroute : ∀ s ∈ searches, d.finderFor s = some i)
    (hfi : d.data.finders[i]? = some (.paths config))
    (hr : d.pathsDoFind w config searches = .ok r) :
    d.findInAll w search = .ok (Lst.dedupBy (· == ·) r) := by
  rw [AllL.findInAll_single d w search searches i _ hu hroute hfi, AllL.fuel_succ,
    AllL.finderDoFind_paths d w _ i config hfi, hr]
  rfl

/-! ### `Sid.get_last` -/

theorem getLast_eq (d : DCtx) (w : World) (x : Sid) (key : Option Str) :
    d.getLast w x key =
      if x.fields.isEmpty then .ok Sid.empty else
      match d.ctx.getWithKw x [(lastKey x key, some ['>'])] with
      | .error e => .error e
      | .ok s =>
        match d.findInAll w s.string with
        | .error e => .error e
        | .ok l => lastAnswer d.ctx (lastKey x key) l.head? := by
  unfold DCtx.getLast DCtx.findOneAll
  split
  · rfl
  · show (match d.ctx.getWithKw x [(lastKey x key, some ['>'])] with
      | .error e => (.error e : Except Err Sid)
      | .ok s => _) = _
    cases d.ctx.getWithKw x [(lastKey x key, some ['>'])] with
    | error e => rfl
    | ok s =>
      simp only
      cases d.findInAll w s.string with
      | error e => rfl
      | ok l => cases l <;> rfl

end GtL
