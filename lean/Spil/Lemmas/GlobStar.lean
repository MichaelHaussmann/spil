/-
  Spil.Lemmas.GlobStar — exact characterisation of the path star search `DCtx.pathsStarGo`
  (FindInPaths.star_search_simple): which (path, Sid) pairs it yields, and that it yields no path
  twice.
-/
import Spil.Lemmas.FS
import Spil.Lemmas.Find

namespace GlobL

open FSL World

/-- the glob pattern `star_search_simple` uses for the search Sid `s`: `str(sid.path(config))`
    (the `.error` branch is a filler: every statement assumes that `sid.path()` does not raise) -/
def patOf (d : DCtx) (config : Option Str) (s : Sid) : Str :=
  match d.ctx.sidPath config s with
  | .ok p => p.getD ['N','o','n','e']
  | .error _ => []

variable (d : DCtx) (w : World) (config : Option Str)

theorem patOf_ok (s : Sid) (po : Option Str) (h : d.ctx.sidPath config s = .ok po) :
    patOf d config s = po.getD ['N','o','n','e'] := by
  simp [patOf, h]

theorem patOf_some (s : Sid) (pat : Str) (h : d.ctx.sidPath config s = .ok (some pat)) :
    patOf d config s = pat :=
  patOf_ok d config s _ h

/-- the invariant of the `searched` / `found` bookkeeping: every hit of a (type, pattern, search
    string) triple already globbed has been yielded -/
def SearchedInv (searched : List (Str × Str × Str)) (found : List Str) : Prop :=
  ∀ tp ∈ searched, ∀ p ∈ w.glob tp.2.1, ∀ x, d.ctx.sidOfPath p config = .ok x → x.typed = true →
    x.type = tp.1 → Find.globMatch d.ctx.env tp.2.2 x.string = .ok true → p ∈ found

variable {d w config} in
/-- the invariant after the scan for `s`, which yielded `hs0` -/
theorem SearchedInv.snoc {searched : List (Str × Str × Str)} {found : List Str}
    (hinv : SearchedInv d w config searched found) (s : Sid) (pat : Str) (hs0 : List (Str × Sid))
    (hm0 : ∀ p x, (p, x) ∈ hs0 ↔ p ∈ w.glob pat ∧ p ∉ found ∧ Hit d config s p x) :
    SearchedInv d w config (searched ++ [(s.type, pat, s.string)]) (found ++ hs0.map (·.1)) := by
  intro tp htp p hp x hx hxt hxty hxg
  rcases List.mem_append.1 htp with htp | htp
  · exact List.mem_append_left _ (hinv tp htp p hp x hx hxt hxty hxg)
  · cases List.mem_singleton.1 htp
    by_cases hpf : p ∈ found
    · exact List.mem_append_left _ hpf
    · exact List.mem_append_right _
        (List.mem_map.2 ⟨(p, x), (hm0 _ _).2 ⟨hp, hpf, hx, hxt, hxty, hxg⟩, rfl⟩)

theorem verdict_total (s : Sid) (p : Str)
    (htot : ∃ x, d.ctx.sidOfPath p config = .ok x) (hb : '[' ∉ s.string) :
    ∃ o, verdict d config s p = .ok o := by
  obtain ⟨x, hx⟩ := htot
  unfold verdict verdictOf
  split
  · exact ⟨_, rfl⟩
  · next e _ he => rw [hx] at he; cases he
  · split
    · exact ⟨_, rfl⟩
    · split
      · exact ⟨_, rfl⟩
      · rw [Find.globMatch_ok _ _ _ hb]
        cases Spec.globB d.ctx.env s.string _ <;> exact ⟨_, rfl⟩

/-- the triple is new: the scan yields `hs0`, the hits of `s` on paths not yet found, and the rest
    runs on the grown memo -/
theorem pathsStarGo_fresh (s : Sid) (rest : List Sid) (searched : List (Str × Str × Str))
    (found : List Str) (po : Option Str) (hpo : d.ctx.sidPath config s = .ok po)
    (hc : searched.contains (s.type, patOf d config s, s.string) = false)
    (htot : ∀ p ∈ w.glob (patOf d config s), ∃ o, verdict d config s p = .ok o) :
    ∃ hs0 : List (Str × Sid), (hs0.map (·.1)).Nodup ∧
      (∀ p x, (p, x) ∈ hs0 ↔ p ∈ w.glob (patOf d config s) ∧ p ∉ found ∧ Hit d config s p x) ∧
      d.pathsStarGo w config (s :: rest) searched found =
        (d.pathsStarGo w config rest (searched ++ [(s.type, patOf d config s, s.string)])
          (found ++ hs0.map (·.1))).map (hs0.map (·.2) ++ ·) := by
  rw [patOf_ok d config s po hpo] at hc htot ⊢
  obtain ⟨⟨out, f⟩, hfold⟩ := memoFold_total (verdict d config s) _ htot ([], found)
  obtain ⟨hs0, rfl, rfl, hn0, hm0⟩ := memoFold_inv _ _ _ _ _ _ hfold
  refine ⟨hs0, hn0, by simpa only [verdict_some] using hm0, ?_⟩
  rw [pathsStarGo_cons, hpo]
  simp only [hc, Bool.false_eq_true, if_false, hfold, List.nil_append]
  cases d.pathsStarGo w config rest _ _ <;> rfl

/-- `found` and `searched` are arbitrary under `SearchedInv`; `C11.c11_star_list` is the case `[] []`.
    The conjunct `p ∉ found` is what carries `Nodup` through the induction. -/
theorem pathsStarGo_pairs
    (htot : ∀ p ∈ w.nodes.map (·.1), ∃ x, d.ctx.sidOfPath p config = .ok x)
    (searches : List Sid) (hsp : ∀ s ∈ searches, ∃ po, d.ctx.sidPath config s = .ok po)
    (hgm : ∀ s ∈ searches, '[' ∉ s.string) :
    ∀ (searched : List (Str × Str × Str)) (found : List Str),
      SearchedInv d w config searched found →
    ∃ hs : List (Str × Sid),
      d.pathsStarGo w config searches searched found = .ok (hs.map (·.2)) ∧
      (hs.map (·.1)).Nodup ∧
      ∀ p x, (p, x) ∈ hs ↔
        ∃ s ∈ searches, p ∈ w.glob (patOf d config s) ∧ p ∉ found ∧ Hit d config s p x := by
  induction searches with
  | nil => intro searched found _; exact ⟨[], rfl, by simp, by simp⟩
  | cons s rest ih =>
    intro searched found hinv
    have ih := ih (fun s hs => hsp s (List.mem_cons_of_mem _ hs))
      (fun s hs => hgm s (List.mem_cons_of_mem _ hs))
    obtain ⟨po, hpo⟩ := hsp s (by simp)
    simp only [List.mem_cons, exists_eq_or_imp]
    cases hc : searched.contains (s.type, patOf d config s, s.string) with
    | true =>
      -- by the invariant the hits of `s` are in `found`
      obtain ⟨hs, h1, h2, h3⟩ := ih searched found hinv
      refine ⟨hs, ?_, h2, fun p x => ?_⟩
      · rw [patOf_ok d config s po hpo] at hc
        rw [pathsStarGo_cons, hpo]
        simpa only [hc, if_true] using h1
      rw [h3]
      refine ⟨Or.inr, fun h => h.resolve_left fun ⟨hg, hnf, hh⟩ => hnf ?_⟩
      exact hinv _ (by simpa using hc) p hg x hh.1 hh.2.1 hh.2.2.1 hh.2.2.2
    | false =>
      obtain ⟨hs0, hn0, hm0, heq⟩ := pathsStarGo_fresh d w config s rest searched found po hpo hc
        (fun p hp => verdict_total d config s p (htot p (List.mem_filter.1 hp).1) (hgm s (by simp)))
      obtain ⟨hs, h1, h2, h3⟩ := ih _ _ (hinv.snoc s _ hs0 hm0)
      refine ⟨hs0 ++ hs, by rw [heq, h1]; simp only [Except.map, List.map_append], ?_, fun p x => ?_⟩
      · -- the later pairs avoid the paths of `hs0`: these are in the memo they ran on
        rw [List.map_append, List.nodup_append]
        refine ⟨hn0, h2, fun a ha b hb hab => ?_⟩
        subst hab
        obtain ⟨⟨q, y⟩, hqy, rfl⟩ := List.mem_map.1 hb
        obtain ⟨_, _, _, hnf, _⟩ := (h3 q y).1 hqy
        exact hnf (List.mem_append_right _ ha)
      · rw [List.mem_append, hm0, h3]
        constructor
        · exact Or.imp_right fun ⟨s', hs', hg, hnf, hh⟩ =>
            ⟨s', hs', hg, fun hm => hnf (List.mem_append_left _ hm), hh⟩
        · rintro (h | ⟨s', hs', hg, hnf, hh⟩)
          · exact Or.inl h
          · by_cases hpm : p ∈ hs0.map (·.1)
            · -- `p` was already yielded for `s`, and resolves to the same Sid
              obtain ⟨⟨q, y⟩, hqy, rfl⟩ := List.mem_map.1 hpm
              have g := (hm0 _ _).1 hqy
              obtain rfl : y = x := Except.ok.inj (g.2.2.1.symm.trans hh.1)
              exact Or.inl g
            · exact Or.inr ⟨s', hs', hg, by simp only [List.mem_append, not_or]; exact ⟨hnf, hpm⟩, hh⟩

-- an end result of its own: nothing above needs it, the scan is total under `htot`
theorem foldl_starStep_error (d : DCtx) (config : Option Str) (s : Sid) (l : List Str) (e : Err) :
    l.foldl (starStep d config s) (.error e) = .error e := by
  rw [starStep_eq_memoStep]
  exact memoFold_error _ l e

end GlobL
