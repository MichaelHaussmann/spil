/-
  Spil.Props.C05 — the namespaces `C06` and `C05`:
  C06 — "A path resolves only to the Sid that owns it, and never makes Sid() fail"
  C05 — "Sid -> path -> Sid is the identity in every path configuration"

  C06's ownership clause is proved outright for EVERY path string, configuration and regex
  behaviour (it rests on the render-back guard of the repaired `path_to_sid`, not on how the regex
  matched).  C05's round trip is proved here as the composition law of the two directions under
  explicit, named inversion hypotheses (`…_partial`); that the path regexes parse a rendered path
  back to the values that rendered it is proved in `Props/C05b.lean` (one template) and
  `Props/C05c.lean` (the whole configuration), which discharge those hypotheses.
-/
import Spil.Model.Path
import Spil.Lemmas.PathL

namespace C06

variable (c : Ctx)

/-- whenever `Sid(path=p, config=cfg)` is typed, that Sid's `path(cfg)` is exactly `p` -/
theorem c06_owner (p : Str) (cfg : Option Str) (x : Sid) (h : c.sidOfPath p cfg = .ok x)
    (ht : x.typed = true) : c.sidPath cfg x = .ok (some p) := by
  rcases PathL.sidOfPath_inv c p cfg x h with rfl | hr
  · simp [Sid.typed, Sid.empty] at ht
  · exact (PathL.pathToSid_inv c p cfg x hr).2

/-- an untyped result is the empty Sid (falsy, empty string and type) -/
theorem c06_untyped_empty (p : Str) (cfg : Option Str) (x : Sid) (h : c.sidOfPath p cfg = .ok x)
    (ht : x.typed = false) : x = Sid.empty := by
  rcases PathL.sidOfPath_inv c p cfg x h with rfl | hr
  · rfl
  · simp [Sid.typed, (PathL.pathToSid_inv c p cfg x hr).1] at ht

/-- when resolva's duplicate check fails (`resolveFirst` answers `.error .resolva`: a repeated field
    with two different values) the path does not resolve: no exception escapes `path_to_dict` -/
theorem c06_desync (pc : PathConf) (p : Str)
    (h : Resolver.resolveFirst c.env pc.resolver p = .error .resolva) :
    c.pathToDict pc p none = .ok none := by
  rw [PathL.pathToDict_none_eq, h]

/-- a path that matches no template gives the empty Sid -/
theorem c06_no_match (p : Str) (cfg : Option Str) (pc : PathConf) (hpc : c.cfg.pathConf? cfg = some pc)
    (h : Resolver.resolveFirst c.env pc.resolver p = .ok none) : c.sidOfPath p cfg = .ok Sid.empty := by
  rw [PathL.sidOfPath_eq,
    PathL.pathToSid_of_none c p cfg pc hpc (by rw [PathL.pathToDict_none_eq, h])]
  split <;> rfl

/-- which failures are possible at all: `Sid(path=…)` can only fail with `other` (raised for an
    unknown configuration name), `type` (a basetype missing from `key_types`) or `resolva` (a
    duplicate-placeholder clash while re-checking a path the code rendered itself); never with a
    SpilException, KeyError or ValueError -/
theorem c06_errors (p : Str) (cfg : Option Str) (e : Err) (h : c.sidOfPath p cfg = .error e) :
    e = .other ∨ e = .type ∨ e = .resolva :=
  PathL.pathToSid_err c p cfg e (PathL.sidOfPath_error_inv c p cfg e h)

/-- totality under the three conventions: the configuration exists, `key_types` lists every
    basetype that has a path template, and re-checking a rendered path never hits a duplicate
    clash
    (`hclash` asks it of every dictionary; `PathL.pathToSid_total` needs it only of the one
    `dict_to_path` prepares from what `path_to_dict` read) -/
theorem c06_total_partial (p : Str) (cfg : Option Str) (pc : PathConf) (hpc : c.cfg.pathConf? cfg = some pc)
    (hkt : ∀ label, (pc.resolver.lookup label).isSome →
       (c.cfg.sid.keyTypes.lookup (((Str.splitStr label c.cfg.sid.sep).head?).getD [])).isSome)
    (hclash : ∀ data label, Resolver.formatOne c.env pc.resolver data label ≠ .error .resolva) :
    ∃ x, c.sidOfPath p cfg = .ok x :=
  PathL.sidOfPath_total c p cfg
    (PathL.pathToSid_total c p cfg pc hpc hkt (fun _ _ _ _ _ _ => hclash _ _))

end C06

namespace C05

variable (c : Ctx)

/-- an untyped Sid has path None -/
theorem c05_none_untyped (cfg : Option Str) (x : Sid) (h : x.fields = []) : c.sidPath cfg x = .ok none := by
  unfold Ctx.sidPath
  simp [h]

/-- a Sid whose type has no path template in the configuration has path None rather than an error -/
theorem c05_none_no_template (cfg : Option Str) (pc : PathConf) (hpc : c.cfg.pathConf? cfg = some pc)
    (x : Sid) (h : pc.resolver.lookup x.type = none) : c.sidPath cfg x = .ok none := by
  by_cases hf : x.fields = []
  · exact c05_none_untyped c cfg x hf
  · rcases PathL.dictToPath_cases c pc x.fields x.type with hd | ⟨t, _, ht, _⟩
    · rw [PathL.sidPath_of_conf c cfg pc hpc x hf, hd]
    · rw [h] at ht; cases ht

/-- the only errors of `path(config)` are `other` (raised for an unknown configuration) and
    `resolva` (a duplicate clash of the reverse check) -/
theorem c05_path_errors (cfg : Option Str) (x : Sid) (e : Err) (h : c.sidPath cfg x = .error e) :
    e = .other ∨ e = .resolva :=
  PathL.sidPath_err c cfg x e h

/-- the inverse law for the value mapping: a sid value `v` that `get_key` maps to a path word and
    the mapping maps back is unchanged, provided the path words are distinct (`hkeys`: they are the
    keys of a Python dict) and a `v` that is no sid-side value is no path word either (`hidem`).
    One-to-one is not asked: `get_key` takes the first entry for `v`. -/
theorem c05_mapping_inverse (m : List (Str × Str)) (v : Str)
    (hkeys : (m.map (·.1)).Nodup)
    (hidem : v ∉ m.map (·.2) → m.lookup v = none) :
    (m.lookup (Ctx.getKey m v)).getD (Ctx.getKey m v) = v := by
  rcases Det.getKey_cases m v with ⟨k, hk, he⟩ | ⟨hno, he⟩
  · rw [he, Lst.lookup_of_mem m hkeys k v hk]; rfl
  · rw [he, hidem fun hm => by
      obtain ⟨p, hp, hpv⟩ := List.mem_map.mp hm
      exact hno p hp hpv]
    rfl

/-- round trip as a composition law: if the path `p` of a typed Sid `x`
    * is read by `path_to_dict` back to `x`'s own type and fields (`hparse`: parse-back, mapping
      inverse and key order together),
    * and `x`'s fields render `x`'s string under its type (`hstr`),
    then `Sid(path=p, config=cfg)` is `x`. -/
theorem c05_roundtrip_partial (cfg : Option Str) (pc : PathConf) (hpc : c.cfg.pathConf? cfg = some pc)
    (x : Sid) (p : Str) (hx : x.fields ≠ []) (hp : c.sidPath cfg x = .ok (some p)) (hpne : p ≠ [])
    (hparse : c.pathToDict pc p none = .ok (some (x.type, x.fields)))
    (hstr : c.dictToSidStr x.fields x.type = .ok x.string) (hs : x.string ≠ []) :
    c.sidOfPath p cfg = .ok x := by
  have hr := (PathL.pathToSid_ok_iff c p cfg pc hpc x).mpr
    ⟨hparse, hx, hstr, hs, hp⟩
  rw [PathL.sidOfPath_eq, hr]
  simp [hpne, Except.map]

/-- injectivity is a corollary of the round trip: two Sids that both survive the round trip and
    have the same path are equal ("two different Sids never map to the same path") -/
theorem c05_injective_partial (cfg : Option Str) (x y : Sid) (p q : Str)
    (hx : c.sidPath cfg x = .ok (some p)) (hy : c.sidPath cfg y = .ok (some q))
    (rx : c.sidOfPath p cfg = .ok x) (ry : c.sidOfPath q cfg = .ok y) (h : p = q) : x = y := by
  -- `hx`, `hy` are not needed: `Sid(path=…)` is a function, so `rx`, `ry` alone force `x = y`
  have _ := hx
  have _ := hy
  subst h
  rw [rx] at ry
  simpa using ry

end C05
