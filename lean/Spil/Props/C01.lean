/-
  Spil.Props.C01 — "A string is typed exactly as the configured templates say, else stays untyped".

  The operational model (`Ctx.sidOfString`: regex compilation, CPython-priority search with `^`/`$`
  anchors, group dictionary, render-back guard, fall back to `resolve_all`) is proved equal to the
  declarative reading of the statement (`Spec.plainSid` / `Spec.forcedSid`: first template, in
  configuration order, with as many placeholders as the string has segments and whose every
  expression accepts its whole segment) for EVERY string and EVERY well-formed template table.
-/
import Spil.Lemmas.Sid

namespace C01

open Spec

/-- plain strings (no uri prefix, no query): first accepting template, else untyped, string verbatim -/
theorem c01_plain (c : Ctx) (hwf : sidTableOk c.env c.cfg.sid.templates = true)
    (s : Str) (hne : s ≠ []) (hc : ':' ∉ s) (hq : '?' ∉ s) :
    c.sidOfString s = .ok (plainSid c.env c.cfg.sid.templates s) := by
  have hs : s.isEmpty = false := by simp [hne]
  unfold Ctx.sidOfString Ctx.sidToSid
  simp only [hs, Bool.false_eq_true, if_false, Str.split1_none '?' s hq, Str.split1_none ':' s hc,
    SidL.sidToDict_none c hwf s hne, List.isEmpty_nil, if_true]
  exact congrArg Except.ok (SidL.sidOfDict_specDict _ _ s)

/-- `ty:rest` forces the template named `ty` (untyped when `ty` is unknown or does not accept) -/
theorem c01_forced (c : Ctx) (hwf : sidTableOk c.env c.cfg.sid.templates = true)
    (ty rest : Str) (hty : ty ≠ []) (hc : ':' ∉ ty) (hq : '?' ∉ ty ++ ':' :: rest) :
    c.sidOfString (ty ++ ':' :: rest) = .ok (forcedSid c.env c.cfg.sid.templates ty rest) := by
  have hs : (ty ++ ':' :: rest).isEmpty = false := by simp
  unfold Ctx.sidOfString Ctx.sidToSid
  simp only [hs, Bool.false_eq_true, if_false, Str.split1_none '?' _ hq, Str.split1_some ':' ty rest hc,
    SidL.sidToDict_forced c hwf ty rest hty, List.isEmpty_nil, if_true]
  exact congrArg Except.ok (SidL.sidOfDict_forcedDict _ _ ty rest)

/-- an empty uri prefix (`:rest`) behaves like the plain string `rest` -/
theorem c01_empty_prefix (c : Ctx) (hwf : sidTableOk c.env c.cfg.sid.templates = true)
    (rest : Str) (hq : '?' ∉ rest) (hne : rest ≠ []) :
    c.sidOfString (':' :: rest) = .ok (plainSid c.env c.cfg.sid.templates rest) := by
  have hq' : '?' ∉ ':' :: rest := by
    simp only [List.mem_cons, not_or]; exact ⟨by decide, hq⟩
  have hsp : Str.split1 ':' (':' :: rest) = ([], some rest) := by simp [Str.split1]
  unfold Ctx.sidOfString Ctx.sidToSid
  simp only [List.isEmpty_cons, Bool.false_eq_true, if_false, Str.split1_none '?' _ hq', hsp,
    SidL.sidToDict_some_nil c hwf rest hne, List.isEmpty_nil, if_true]
  exact congrArg Except.ok (SidL.sidOfDict_specDict _ _ rest)

/-- creating a Sid from a query-free string never fails -/
theorem c01_total (c : Ctx) (hwf : sidTableOk c.env c.cfg.sid.templates = true)
    (s : Str) (hq : '?' ∉ s) : ∃ x, c.sidOfString s = .ok x := by
  by_cases hs : s = []
  · subst hs; exact ⟨Sid.empty, rfl⟩
  · rcases Str.first_sep ':' s with hc | ⟨ty, rest, rfl, hc⟩
    · exact ⟨_, c01_plain c hwf s hs hc hq⟩
    · by_cases hty : ty = []
      · subst hty
        by_cases hr : rest = []
        · subst hr
          exact ⟨Sid.untyped [], rfl⟩
        · exact ⟨_, c01_empty_prefix c hwf rest (by simpa using hq) hr⟩
      · exact ⟨_, c01_forced c hwf ty rest hty hc hq⟩

/-- an untyped Sid is falsy, has an empty type, no fields, length 0 -/
theorem c01_untyped_obs (s : Str) :
    (Sid.untyped s).typed = false ∧ (Sid.untyped s).type = [] ∧ (Sid.untyped s).fields = [] ∧
    (Sid.untyped s).len = 0 ∧ (Sid.untyped s).string = s := by
  simp [Sid.untyped, Sid.typed, Sid.len]

/-- a typed result has as many fields as the string has segments, keyed by the template's keys -/
theorem c01_typed_fields (e : Env) (ts : List (Str × Template)) (s : Str) (label : Str) (t : Template)
    (h : firstAccepting e ts s = some (label, t)) :
    (plainSid e ts s).type = label ∧ (plainSid e ts s).string = s ∧
    (plainSid e ts s).fields.map (·.2) = Str.splitOn '/' s ∧
    (plainSid e ts s).fields.map (·.1) = (phs t).map (·.1) := by
  obtain ⟨_, hacc⟩ := SidL.firstAccepting_inv e ts s label t h
  have hlen := SidL.acceptsSegs_length e _ _ hacc
  simp only [plainSid, h, fieldsOf, true_and]
  constructor
  · exact List.map_snd_zip (by simp; omega)
  · exact List.map_fst_zip (by simp; omega)

end C01
