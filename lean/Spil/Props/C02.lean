/-
  Spil.Props.C02 — "String, fields, query and uri forms of a typed Sid all denote the same Sid"
  Spil.Props.C03 — "Parent, get_as and '/' navigate one consistent hierarchy"

  For EVERY configuration satisfying the documented conventions (`Spec.sidHierOk`); C02 for EVERY
  naturally typed Sid (any string the table types by first match, search symbols included), the
  navigation of C03 for every well-typed one (typed by any template that accepts its string).

  Several statements carry a hypothesis on the string (`x.string ≠ []`, `renderable …`).  Each is
  needed: a counterexample is given next to the statement, on the table
    a1 = {k:x*}   a2 = {k:[^/]*}   b = {k:[^/]*}/{j:[^/]*}
  which satisfies `sidHierOk`.  The two phenomena behind them:
    (E) `resolve_one('')` is empty, so `Resolver.format_*` never renders the empty string, and a uri
        `type:` with an empty string part is untyped — while the EMPTY string itself is naturally
        typed by `a1` (`x*` accepts it);
    (N) the reverse check of `Resolver.format_*` resolves with `$`, which tolerates one final newline:
        `a1` "renders" `{k: "x\n"}` although it only accepts "x", `dict_to_type` lists it first, and
        `dict_to_sid` then fails on the render-back guard of `sid_to_dict` and returns `None`.
  `Spec.renderable s` (defined in `Spil.Lemmas.Hier`) is `s ≠ [] ∧ s.getLast? ≠ some '\n'`.
-/
import Spil.Lemmas.Hier
import Spil.Props.C01

namespace C02

open Spec

variable (c : Ctx)

/-- what a naturally typed Sid looks like: its string is the '/'-join of its field values (the
    canonical rendering through its template), its keys are its template's keys -/
theorem c02_canonical (x : Sid) (hwf : sidHierOk c.env c.cfg.sid.templates = true)
    (hx : natural c.env c.cfg.sid.templates x) :
    x.string = Str.joinWith '/' (x.fields.map (·.2)) ∧
    ∃ t, c.cfg.sid.templates.lookup x.type = some t ∧ x.fields.map (·.1) = keysOf t ∧
      accepts c.env t x.string = true := by
  have h1 := HierL.hier_table hwf
  obtain ⟨t, ht, _⟩ := HierL.natural_typedBy hx
  exact ⟨by rw [ht.vals, Str.join_split], t, ht.lookup h1, ht.keys, ht.acc⟩

/-- rebuilding from the uri gives the same Sid -/
-- `hne : x.string ≠ []` is needed (phenomenon E): the empty string is naturally typed `a1` with
-- fields `{k: ""}`, its uri is `a1:`, and `Sid("a1:")` is the untyped empty-string Sid.
theorem c02_uri (x : Sid) (hwf : sidHierOk c.env c.cfg.sid.templates = true)
    (hx : natural c.env c.cfg.sid.templates x) (hne : x.string ≠ [])
    (hq : '?' ∉ x.string) (hc : ':' ∉ x.string) :
    c.sidOfString x.uri = .ok x := by
  have _ := hc  -- not needed: a ':' in the string part of a uri is harmless
  exact HierL.sidOfString_uri c hwf x (HierL.natural_wellTyped (HierL.hier_table hwf) hx hne) hq

/-- `copy()` gives the same Sid -/
-- `hne` is needed (phenomenon E): the counterexample of `c02_uri`.
theorem c02_copy (x : Sid) (hwf : sidHierOk c.env c.cfg.sid.templates = true)
    (hx : natural c.env c.cfg.sid.templates x) (hne : x.string ≠ [])
    (hq : '?' ∉ x.string) (hc : ':' ∉ x.string) :
    c.copy x = .ok x :=
  c02_uri c x hwf hx hne hq hc

/-- rebuilding from the field dictionary in ANY key order gives the same Sid -/
-- `hr : renderable x.string` is needed: non-empty (phenomenon E: `Sid(fields={k: ""})` is the
-- empty Sid) and not ending in a newline (phenomenon N: "x\n" is naturally typed `a2` with fields
-- `{k: "x\n"}`, and `Sid(fields={k: "x\n"})` is the empty Sid).
theorem c02_fields (x : Sid) (hwf : sidHierOk c.env c.cfg.sid.templates = true)
    (hx : natural c.env c.cfg.sid.templates x) (hr : renderable x.string)
    (p : Dict) (hp : p.Perm x.fields) :
    c.sidOfFields p = .ok x := by
  have h1 := HierL.hier_table hwf
  obtain ⟨t, ht, hfind⟩ := HierL.natural_find_fits hwf hx hp
  have hd := ht.dictOf hwf hp
  have hj := Str.join_split '/' x.string
  have hpne : p.isEmpty = false := by simp [hd.ne_nil (ht.keysOf_ne_nil h1)]
  unfold Ctx.sidOfFields
  rw [HierL.dictToSid_eq c h1 p (hd.rendered_renderable (hj.symm ▸ hr))
    (hd.noSlash (Str.splitOn_not_mem '/' x.string)), hfind]
  simp only [hpne, Bool.false_eq_true, if_false, Option.map_some, Option.getD_some,
    hd.sidVia_eq (a := (x.type, t)) rfl, hj]
  exact congrArg Except.ok (HierL.sid_eta x _ ht.fields)

/-- two naturally typed Sids are equal as model values (`=`, not `Sid.eqv`, the model of `__eq__`)
    exactly when type and fields are equal -/
theorem c02_eq (x y : Sid) (hwf : sidHierOk c.env c.cfg.sid.templates = true)
    (hx : natural c.env c.cfg.sid.templates x) (hy : natural c.env c.cfg.sid.templates y) :
    x = y ↔ (x.type = y.type ∧ x.fields = y.fields) := by
  constructor
  · rintro rfl; exact ⟨rfl, rfl⟩
  · rintro ⟨h1, h2⟩
    exact HierL.sid_ext
      (by rw [(c02_canonical c x hwf hx).1, (c02_canonical c y hwf hy).1, h2]) h1 h2

/-- `repr(sid)` is `Sid('<uri>')`, by definition of the model's `Sid.repr` -/
theorem c02_repr (x : Sid) :
    ∃ pre post, Sid.repr x = pre ++ x.uri ++ post ∧ pre = ['S','i','d','(','\''] ∧ post = ['\'',')'] :=
  ⟨_, _, rfl, rfl, rfl⟩

end C02

namespace C03

open Spec

variable (c : Ctx)

/-- a naturally typed Sid is well typed -/
-- `hne : x.string ≠ []` is what `wellTyped` itself demands (phenomenon E: the empty string is
-- naturally typed `a1` on the table of the header).
theorem natural_wellTyped (x : Sid) (hwf : sidHierOk c.env c.cfg.sid.templates = true)
    (hx : natural c.env c.cfg.sid.templates x) (hne : x.string ≠ []) :
    wellTyped c.env c.cfg.sid.templates x :=
  HierL.natural_wellTyped (HierL.hier_table hwf) hx hne

/-- `get_as(k)` for the key at position `i` of ANY well-typed Sid (natural, uri-forced or built
    from fields / a query): a well-typed Sid whose fields are exactly the first `i+1` fields and
    whose string is the corresponding '/'-prefix of the original string -/
-- `hr` (the '/'-prefix to be produced is renderable) is needed.  On the table of the header:
-- "/y" is typed `b` and `get_as('k')` is the empty Sid (phenomenon E, prefix "");
-- "x\n/y" is typed `b` and `get_as('k')` is the empty Sid (phenomenon N, prefix "x\n").
theorem c03_get_as (x : Sid) (hwf : sidHierOk c.env c.cfg.sid.templates = true)
    (hx : wellTyped c.env c.cfg.sid.templates x) (i : Nat) (hi : i < x.fields.length)
    (hr : renderable (Str.joinWith '/' ((Str.splitOn '/' x.string).take (i + 1)))) :
    ∃ y, c.getAs x (x.fields.map (·.1))[i]! = .ok y ∧ wellTyped c.env c.cfg.sid.templates y ∧
      y.fields = x.fields.take (i + 1) ∧
      y.string = Str.joinWith '/' ((Str.splitOn '/' x.string).take (i + 1)) :=
  HierL.getAs_of_wellTyped c hwf x hx i hi hr

/-- `parent` of a Sid with at least two fields is `get_as` of the second-to-last key and has one
    field less; `parent / last value` re-resolves the original string, hence gives back the Sid
    whenever the Sid is naturally typed -/
-- `hr` (the parent's string, all segments but the last, is renderable) is needed: the
-- counterexamples of `c03_get_as` ("/y" and "x\n/y": `parent` is the empty Sid).
theorem c03_parent (x : Sid) (hwf : sidHierOk c.env c.cfg.sid.templates = true)
    (hx : wellTyped c.env c.cfg.sid.templates x) (hn : 2 ≤ x.fields.length)
    (hr : renderable (Str.joinWith '/' ((Str.splitOn '/' x.string).take (x.fields.length - 1))))
    (hq : '?' ∉ x.string) (hc : ':' ∉ x.string) :
    ∃ p, c.parent x = .ok p ∧ c.getAs x (x.fields.map (·.1))[x.fields.length - 2]! = .ok p ∧
      p.fields.length = x.fields.length - 1 ∧ wellTyped c.env c.cfg.sid.templates p ∧
      c.div p ((x.fields.map (·.2)).getLast?.getD []) = .ok (plainSid c.env c.cfg.sid.templates x.string) ∧
      (natural c.env c.cfg.sid.templates x → c.div p ((x.fields.map (·.2)).getLast?.getD []) = .ok x) := by
  have h1 := HierL.hier_table hwf
  obtain ⟨_, _, hsne⟩ := HierL.wellTyped_typedBy hx
  obtain ⟨p, hp1, hp2, hp3, hp4, _, hp6⟩ := HierL.parent_of_wellTyped c hwf x hx hn hr
  have hdiv : c.div p ((x.fields.map (·.2)).getLast?.getD []) =
      .ok (plainSid c.env c.cfg.sid.templates x.string) := by
    unfold Ctx.div
    rw [hp6]
    exact C01.c01_plain c h1 x.string hsne hc hq
  refine ⟨p, hp1, hp2, ?_, hp3, hdiv, ?_⟩
  · rw [hp4, List.length_take]; omega
  · intro hnat
    rw [hdiv, ← hnat.2]

/-- a one-field naturally typed Sid is its own parent -/
-- `hne` is needed (phenomenon E): the parent of a one-field Sid is its copy, see the
-- counterexample of `c02_uri`.
theorem c03_root (x : Sid) (hwf : sidHierOk c.env c.cfg.sid.templates = true)
    (hx : natural c.env c.cfg.sid.templates x) (hn : x.fields.length = 1) (hne : x.string ≠ [])
    (hq : '?' ∉ x.string) (hc : ':' ∉ x.string) :
    c.parent x = .ok x := by
  have _ := hc
  exact HierL.parent_single c hwf x (natural_wellTyped c x hwf hx hne) hn hq

/-- walking up: applying `parent` `len - 1` times reaches a one-field Sid -/
-- `hr` (every proper non-empty '/'-prefix of the string is renderable: each one is the string of
-- an ancestor) is needed: the counterexamples of `c03_get_as`.
theorem c03_walk (x : Sid) (hwf : sidHierOk c.env c.cfg.sid.templates = true)
    (hx : wellTyped c.env c.cfg.sid.templates x)
    (hr : ∀ n, 0 < n → n < x.fields.length →
      renderable (Str.joinWith '/' ((Str.splitOn '/' x.string).take n)))
    (hq : '?' ∉ x.string) (hc : ':' ∉ x.string) :
    ∃ r, (Nat.repeat (fun (a : Except Err Sid) => a.bind c.parent) (x.fields.length - 1) (.ok x)) = .ok r ∧
      r.fields = x.fields.take 1 := by
  have _ := hq; have _ := hc  -- not needed: no step re-reads a uri
  exact HierL.walk_of_wellTyped c x hwf hx hr

/-- keytype / basetype / len are the last field name, the type prefix and the number of fields
    (the model's definitions, unfolded) -/
theorem c03_meta (x : Sid) :
    Ctx.keytype x = (x.fields.map (·.1)).getLast? ∧ x.len = x.fields.length ∧
    (x.type ≠ [] → c.basetype x = (Str.splitStr x.type c.cfg.sid.sep).head?) := by
  refine ⟨?_, rfl, ?_⟩
  · simp [Ctx.keytype, List.getLast?_map]
  · intro h
    have : x.type.isEmpty = false := by simp [h]
    simp [Ctx.basetype, this]

/-- on an untyped Sid the navigations return the empty Sid (or `none`) instead of failing; `/` is
    `Sid(s + '/' + k)`, whatever that answers -/
theorem c03_untyped (s : Str) (hs : s ≠ []) (k : Str) (kw : List (Str × Option Str)) (q : Str) :
    c.parent (Sid.untyped s) = .ok Sid.empty ∧ c.getAs (Sid.untyped s) k = .ok Sid.empty ∧
    c.getWithKw (Sid.untyped s) kw = .ok Sid.empty ∧ c.getWithQuery (Sid.untyped s) q = .ok Sid.empty ∧
    Ctx.keytype (Sid.untyped s) = none ∧ c.basetype (Sid.untyped s) = none ∧ (Sid.untyped s).len = 0 ∧
    c.div (Sid.untyped s) k = c.sidOfString (s ++ '/' :: k) := by
  have hs' : s.isEmpty = false := by simp [hs]
  refine ⟨rfl, rfl, ?_, ?_, rfl, rfl, rfl, rfl⟩
  · simp [Ctx.getWithKw, Sid.untyped, hs']
  · simp [Ctx.getWithQuery, Sid.untyped, hs']

end C03
