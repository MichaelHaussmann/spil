/-
  Spil.Props.C07a — the ',' (or) operator of search expressions: `or_on_path` and `or_on_query`
  distribute every comma list, i.e. they enumerate exactly the choices of one alternative per
  segment / per query value.  (Part of C07 and of the first rewrite rule of C10.)
-/
import Spil.Spec.Unfold
import Spil.Lemmas.Unfold

namespace C07

open Spec Ctx

/-- `or_on_path` computes the product of the alternatives (as a list, in its own order), for
    every string that does not contain the function's private sentinel `--start--` -/
theorem c07_or_on_path (s : Str) (hm : Str.isInfix startMark s = false) :
    orOnPath s = orProduct (Str.splitOn '/' s) :=
  orOnPath_eq s ((Str.isInfix_eq_false_iff _ _).1 hm)

/-- membership form: the results are exactly the '/'-joins of one choice per segment -/
theorem c07_or_on_path_mem (s : Str) (hm : Str.isInfix startMark s = false) (x : Str) :
    x ∈ orOnPath s ↔ ∃ picks, Choice (Str.splitOn '/' s) picks ∧ x = Str.joinWith '/' picks := by
  rw [orOnPath_eq s ((Str.isInfix_eq_false_iff _ _).1 hm)]
  exact mem_orProduct _ (Str.splitOn_ne_nil '/' s) x

/-- a string without ',' is left alone by `or_op` -/
theorem c07_or_op_plain (s : Str) (h : Str.hasChar ',' s = false) : orOp s = .ok [s] := by
  simp [orOp, h]

/-- `or_on_query` on the items of a query dictionary: every result assigns to each key one of
    the ','-alternatives (unstripped, as the code does) of its value, and all assignments occur -/
theorem c07_or_query_mem (qd : Dict) (hk : (qd.map (·.1)).Nodup) (d : Dict) :
    d ∈ orQueryGo qd [qd] ↔
      (d.map (·.1) = qd.map (·.1) ∧
       ∀ p ∈ qd.zip d, (if Str.hasChar ',' p.1.2 then p.2.2 ∈ Str.splitOn ',' p.1.2 else p.2.2 = p.1.2)) := by
  have := mem_orQueryGo_append qd [] (by simpa using hk) d
  simp only [List.nil_append] at this
  rw [this]
  constructor
  · rintro ⟨d', rfl, hkeys, hok⟩
    exact ⟨hkeys, hok⟩
  · rintro ⟨hkeys, hok⟩
    exact ⟨d, rfl, hkeys, hok⟩

/-- `sorted(set(sids), key=(string, type))`: no two results share a uri, and the result has the
    same members (up to Sid equality) as the input -/
theorem c07_sort_nodup (xs : List Sid) :
    (sortSids xs).Pairwise (fun a b => a.uri ≠ b.uri) ∧
    (∀ x ∈ sortSids xs, x ∈ xs) ∧ (∀ x ∈ xs, ∃ y ∈ sortSids xs, y.uri = x.uri) := by
  unfold sortSids
  refine ⟨?_, ?_, ?_⟩
  · refine (List.Perm.pairwise_iff (fun h e => h e.symm) (Lst.sortBy_perm _ _)).2 ?_
    refine List.Pairwise.imp ?_ (Lst.dedupBy_pairwise Sid.eqv xs)
    intro a b hab e
    simp [Sid.eqv, e] at hab
  · exact fun x hx => mem_of_mem_sortSids hx
  · exact sortSids_cover xs

/-- `unfold_search` never returns an untyped Sid nor one with an un-applied query -/
theorem c07_clean (c : Ctx) (s : Str) (u x : Bool) (r : List Sid) (h : c.unfoldSearch s u x = .ok r) :
    ∀ y ∈ r, y.typed = true ∧ Str.hasChar '?' y.string = false := by
  obtain ⟨l, rfl⟩ := unfoldSearch_inv c s u x r h
  intro y hy
  have hy' : y ∈ (sortSids l).filter (fun x => x.typed && !Str.hasChar '?' x.string) := by
    cases u
    · exact hy
    · exact Lst.mem_of_mem_dedupBy _ hy
  simpa using (List.mem_filter.1 hy').2

end C07
