/-
  Spil.Props.C10bExamples — (1) non-vacuity of the list-search rules of C10b and of the headline
  theorem `C07.c07_unfold` on the SHIPPED configuration; (2) COUNTEREXAMPLES, evaluated by the
  kernel in the model, showing that the hypotheses of C07c / C10b are needed — and that two clauses
  of C10 are FALSE on the model for some (well-formed) configurations:
  * `find(a,b) = find(a) ∪ find(b)` fails when a narrowing filter contradicts a concrete value
    (`cex_or_rule`): the concrete string takes `Finder.find`'s shortcut (not narrowed), the ','
    list is unfolded (narrowed, and the narrowing OVERRIDES the concrete value);
  * "an alias equals the list of its extensions" fails when an extension is itself an alias name
    (`cex_alias_rule`): aliases are not expanded recursively.
  GENERATED char lists.
-/
import Spil.Generated.DemoConf
import Spil.Props.C07d
import Spil.Props.C10b
import Spil.Props.C07cExamples

namespace C10Ex

open Spec Generated Ctx C07Ex

def strsAre (x : Except Err (List Str)) (us : List Str) : Bool :=
  match x with
  | .ok r => decide (r = us)
  | .error _ => false

theorem strsAre_ok (x : Except Err (List Str)) (us : List Str) (h : strsAre x us = true) : x = .ok us := by
  unfold strsAre at h
  split at h
  · simp only [decide_eq_true_eq] at h; rw [h]
  · cases h

/-! ### the headline theorem on the shipped configuration -/

theorem demo_narrowOk : narrowOk demoCtx.cfg.sid = true := by decide +kernel
theorem demo_aliasNoNl : aliasNoNl demoCtx.cfg.sid = true := by decide +kernel

/-- `C07.c07_unfold` instantiated on `hamlet/a,s/*`: the expression is well formed, and the kernel's
    result is exactly the set of typed, query-free narrowings of what the expression denotes -/
theorem ex_headline :
    ∃ r, demoCtx.unfoldSearch sOr false false = .ok r ∧ r.map Sid.uri = sOrUris ∧
      (∀ x, x ∈ r ↔ ∃ y, Denotes demoCtx sOr y ∧ demoCtx.typeNarrow y = .ok x ∧ x.typed = true ∧
        '?' ∉ x.string) ∧ r.Nodup := by
  obtain ⟨r, hr, hu⟩ := sOr_eval
  rcases C07.c07_unfold demoCtx demo_confOk demo_narrowOk sOr sOr_ok
    (C07.c07_noNl demoCtx demo_aliasNoNl sOr (by decide +kernel)) with ⟨_, herr⟩ | ⟨_, r', hr', hmem, _, hnd⟩
  · rw [hr] at herr; cases herr
  · rw [hr] at hr'
    cases hr'
    exact ⟨r, hr, hu, hmem, hnd⟩

/-! ### (or) for list search on the shipped configuration -/

def demoList : List Str := [['h','a','m','l','e','t','/','a','/','c','h','a','r'], ['h','a','m','l','e','t','/','a','/','p','r','o','p'], ['h','a','m','l','e','t','/','s','/','s','q','0','0','1'], ['h','a','m','l','e','t','/','a'], ['h','a','m','l','e','t','/','s','/','s','q','0','0','1','/','s','h','0','0','1','0']]

theorem ex_list_or_eval :
    demoCtx.findInList ⟨demoList, false⟩ sOr = .ok [['h','a','m','l','e','t','/','a','/','c','h','a','r'], ['h','a','m','l','e','t','/','a','/','p','r','o','p'], ['h','a','m','l','e','t','/','s','/','s','q','0','0','1']] :=
  strsAre_ok _ _ (by decide +kernel)

/-- `C10.c10_list_or` instantiated: `find(hamlet/a,s/*) = find(hamlet/a/*) ∪ find(hamlet/s/*)` -/
theorem ex_list_or : ∃ R, demoCtx.findInList ⟨demoList, false⟩ sOr = .ok R ∧ R.Nodup ∧
    ∀ x, x ∈ R ↔ ∃ alt ∈ altsOf (segAt sOr 1), ∃ R',
      demoCtx.findInList ⟨demoList, false⟩ (setSeg sOr 1 alt) = .ok R' ∧ x ∈ R' := by
  obtain ⟨r, hr, hu⟩ := sOr_eval
  have hsym : ∀ s, demoCtx.isSearchStr s = true → ExprOk demoCtx s → SearchesAgree demoCtx s :=
    fun s h hS => (C10.c10_agree_proper demoCtx demo_confOk s hS (Or.inl h)).2
  -- no '>' and no '[' in the strings of the unfolded searches: read off their uris
  have hchars : ∀ x ∈ r, '>' ∉ x.string ∧ '[' ∉ x.string := by
    have key : ∀ u ∈ sOrUris, '>' ∉ u ∧ '[' ∉ u := by decide +kernel
    intro x hx
    have hxu := key x.uri (hu ▸ List.mem_map.2 ⟨x, hx, rfl⟩)
    have hsub : ∀ ch, ch ∈ x.string → ch ∈ x.uri := by
      intro ch hch
      unfold Sid.uri
      split
      · exact hch
      · simp [hch]
    exact ⟨fun h => hxu.1 (hsub _ h), fun h => hxu.2 (hsub _ h)⟩
  refine C10.c10_list_or demoCtx demo_confOk sOr sOr_ok 1 (by decide +kernel) demoList r hr
    (hsym sOr (by decide +kernel) sOr_ok) ?_ (fun x hx => (hchars x hx).1) (fun x hx => (hchars x hx).2)
  intro alt halt
  rw [sOr_alts] at halt
  simp only [List.mem_cons, List.not_mem_nil, or_false] at halt
  rcases halt with rfl | rfl
  · rw [sOr_setA]; exact hsym sOrA (by decide +kernel) sOrA_ok
  · rw [sOr_setS]; exact hsym sOrS (by decide +kernel) sOrS_ok

/-! ### ("/**") on the shipped configuration -/

/-- `hamlet/a/**/ma` is `x/**/b` with `x = hamlet/a`, `b = ma` -/
theorem sStars_shape : sStars = ['h','a','m','l','e','t','/','a'] ++ slashStars ++ '/' :: ['m','a'] := by decide +kernel

/-- `C10.c10_stars_denotes` instantiated on `hamlet/a/**/ma`: it denotes the leaf-typed searches of
    `hamlet/a` + k × "/*" + `/ma` -/
theorem ex_stars (y : Sid) :
    Denotes demoCtx sStars y ↔ ∃ k, Denotes demoCtx (fill sStars k) y ∧ LeafTyped demoCtx 2 y := by
  have hcm : ',' ∉ sStars := by decide +kernel
  have hnal : demoCtx.cfg.sid.extensionAlias.lookup (((Str.splitOn '/' sStars).getLast?).getD []) = none := by
    decide +kernel
  have hp1 : ∀ a, Picks demoCtx sStars a → Str.count a slashStars = 1 := by
    intro a ha
    rw [(DenL.picks_plain_iff demoCtx sStars hcm hnal a).1 ha]
    decide +kernel
  have h1 : Str.count sStars slashStars = 1 := by decide +kernel
  have hn : (Str.splitOn '/' ['h','a','m','l','e','t','/','a']).length = 2 := by decide +kernel
  have := C10.c10_stars_denotes demoCtx ['h','a','m','l','e','t','/','a'] ['m','a'] (sStars_shape ▸ h1) (sStars_shape ▸ hp1) y
  rw [hn, ← sStars_shape] at this
  exact this

/-! ### counterexample configurations -/

def free : Re := Re.star Cls.notSlash

/-- templates `p = {proj}`, `a = {proj}/{type}`, `a__f = {proj}/{type}/{ext}`, all placeholders
    `[^/]*`; leaf key `ext`; the alias table and the two narrowing tables (basetyped, typed) are
    parameters -/
def cexConf (alias : List (Str × List Str)) (narrow typed : List (Str × Str)) : Ctx :=
  { cfg := { sid := { sep := ['_','_'], searchSymbols := [['*'], [','], ['>'], ['<'], ['*','*']],
                      templates := [(['p'], [.ph ['p','r','o','j'] free]),
                                    (['a'], [.ph ['p','r','o','j'] free, .lit ['/'], .ph ['t','y','p','e'] free]),
                                    (['a','_','_','f'], [.ph ['p','r','o','j'] free, .lit ['/'], .ph ['t','y','p','e'] free, .lit ['/'], .ph ['e','x','t'] free])],
                      keyTypes := [], leafKeys := [(some ['a'], ['e','x','t']), (some ['p'], ['e','x','t'])],
                      extensionAlias := alias, basetypedNarrowing := narrow, typedNarrowing := typed }
             paths := [], defaultPath := [], dataSuffix := [] }
    env := { isDigit := fun _ => false } }

/-- narrowing `type=~a` for the basetype `a` (as the shipped configuration does for `asset`) -/
def cNarrow : Ctx := cexConf [] [(['a'], ['t','y','p','e','=','~','a'])] []

theorem cNarrow_confOk : ConfOk cNarrow where
  wf := by decide +kernel
  alias := by decide +kernel
  noEmptyNarrow := by decide +kernel

def lXYA : List Str := [['p','/','x'], ['p','/','y'], ['p','/','a']]

/-- C10's FIRST RULE IS FALSE ON THE MODEL for this (conventional) configuration:
    `find("p/x,y")` returns `["p/a"]` — both alternatives are typed `a` and the narrowing `type=~a`
    overrides the concrete values `x`, `y` — while `find("p/x")` returns `["p/x"]` and
    `find("p/y")` returns `["p/y"]` (a concrete typed string is neither unfolded nor narrowed). -/
theorem cex_or_rule :
    cNarrow.findInList ⟨lXYA, false⟩ ['p','/','x',',','y'] = .ok [['p','/','a']] ∧
    cNarrow.findInList ⟨lXYA, false⟩ ['p','/','x'] = .ok [['p','/','x']] ∧
    cNarrow.findInList ⟨lXYA, false⟩ ['p','/','y'] = .ok [['p','/','y']] :=
  ⟨strsAre_ok _ _ (by decide +kernel), strsAre_ok _ _ (by decide +kernel), strsAre_ok _ _ (by decide +kernel)⟩

/-- at the level of `unfold_search` the rule holds (`C10.c10_or`): the concrete string unfolds to
    the narrowed Sid as well; it is `Finder.find`'s shortcut that differs (`SearchesAgree` fails) -/
theorem cex_or_rule_unfold :
    (∃ r, cNarrow.unfoldSearch ['p','/','x'] false false = .ok r ∧ r.map Sid.uri = [['a',':','p','/','a']]) ∧
    (∃ r, cNarrow.findSearches ['p','/','x'] = .ok r ∧ r.map Sid.uri = [['a',':','p','/','x']]) :=
  ⟨urisAre_ok _ _ (by decide +kernel), urisAre_ok _ _ (by decide +kernel)⟩

/-- an extension that is itself an alias name: `aliasOk` holds, `aliasFlat` does not -/
def cAlias : Ctx := cexConf [(['m','a','y','a'], [['m','a'], ['m','b']]), (['m','a'], [['x']])] [] []

/-- C10's ALIAS RULE IS FALSE ON THE MODEL without `aliasFlat`: `p/t/maya` unfolds to the
    extensions `ma`, `mb`, but the written-out list `p/t/ma,mb` unfolds to `mb`, `x` -/
theorem cex_alias_rule :
    aliasOk cAlias.cfg.sid = true ∧ aliasFlat cAlias.cfg.sid = false ∧
    (∃ r, cAlias.unfoldSearch ['p','/','t','/','m','a','y','a'] false false = .ok r ∧
      r.map Sid.uri = [['a','_','_','f',':','p','/','t','/','m','a'], ['a','_','_','f',':','p','/','t','/','m','b']]) ∧
    (∃ r, cAlias.unfoldSearch ['p','/','t','/','m','a',',','m','b'] false false = .ok r ∧
      r.map Sid.uri = [['a','_','_','f',':','p','/','t','/','m','b'], ['a','_','_','f',':','p','/','t','/','x']]) :=
  ⟨by decide +kernel, by decide +kernel, urisAre_ok _ _ (by decide +kernel), urisAre_ok _ _ (by decide +kernel)⟩

/-- `aliasOk`, clause "alias names are non-empty": with an alias named "" the model leaves an empty
    last segment alone (`handle_extension("")` returns ""), the declarative reading would expand it -/
theorem cex_alias_empty_name :
    ∃ r, (cexConf [([], [['m','a']])] [] []).unfoldSearch ['p','/','t','/'] false false = .ok r ∧
      r.map Sid.uri = [['a','_','_','f',':','p','/','t','/']] :=
  urisAre_ok _ _ (by decide +kernel)

/-- `aliasOk`, clause "every alias has an extension": an alias without extensions stands for the
    EMPTY value in the model (not for nothing) -/
theorem cex_alias_no_ext :
    ∃ r, (cexConf [(['n','o','n','e'], [])] [] []).unfoldSearch ['p','/','t','/','n','o','n','e'] false false = .ok r ∧
      r.map Sid.uri = [['a','_','_','f',':','p','/','t','/']] :=
  urisAre_ok _ _ (by decide +kernel)

/-- `aliasOk`, clause "extensions are stripped": `or_on_path` strips the alternatives of the ','
    list `extensions` wrote, so the extension " ma" is searched as "ma" -/
theorem cex_alias_space :
    ∃ r, (cexConf [(['m','a','y','a'], [[' ','m','a'], ['m','b']])] [] []).unfoldSearch ['p','/','t','/','m','a','y','a'] false false = .ok r ∧
      r.map Sid.uri = [['a','_','_','f',':','p','/','t','/','m','a'], ['a','_','_','f',':','p','/','t','/','m','b']] :=
  urisAre_ok _ _ (by decide +kernel)

/-- `ConfOk.noEmptyNarrow`: with a typed narrowing configured for the type name "" (the type of
    the untyped Sid in the model), the EMPTY expression — which denotes nothing — unfolds to a Sid -/
theorem cex_empty_narrow :
    ∃ r, (cexConf [] [] [([], ['p','r','o','j','=','p'])]).unfoldSearch [] false false = .ok r ∧
      r.map Sid.uri = [['p',':','p']] :=
  urisAre_ok _ _ (by decide +kernel)

end C10Ex
