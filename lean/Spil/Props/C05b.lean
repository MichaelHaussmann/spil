/-
  Spil.Props.C05b — deterministic parse of rendered paths (the regular-language half of C05 / C06).

  Under the decidable conventions of `Spil/Spec/PathWF.lean` a template reads the path it rendered
  back to exactly the rendered values.  `pathTplOk`: per '/'-free stretch at most one free
  placeholder, prefix-free vocabularies to its left, suffix-free ones to its right.  `pathConfOk`:
  in addition idempotent value mappings (one-to-one, or several path words per sid value with an
  acceptable first word) and acceptable defaults.  Consequences: resolva's duplicate check never
  fires on a self-rendered path, hence `Sid(path=…)` NEVER raises (C06, in full), and the round trip
  holds as soon as no EARLIER template matches the rendered path (C05).

  Each of the following conventions is needed; without it the statement named is false:

  * `pathTplOk` asks that the classes of closed vocabularies are '/'-free (`atomOk`).
     `c05_own_parse` false: `{x:(a|a/b)}/{z:(b/c|c)}`, x=a/b, z=c renders `a/b/c`, which is read
     back as x=a, z=b/c.
  * `pathTplOk` asks for fewer than 1000 occurrences of one key (`keyCountOk`).
     `c05_own_parse` false: `{k}/{k}/…/{k}` (1000 times): the 1000th group is named `k1000`,
     `match_to_dict` strips three characters and stores it under the key `k1`: keys [k, k1] ≠ [k].
  * `pathTplOk` asks that literal text and closed vocabularies are newline-free (`atomOk`).
     `c06_no_clash` false: `{x:(a\n|a)}/{x:(a|a\n)}`, x=a\n renders `a\n/a\n`; `$` matches before
     the final newline, the first success captures x001=a\n, x002=a: ResolvaException.
     (A newline at the end of a FREE value is harmless: the greedy `[^/]*` comes first; this is
     `Det.find_dollar_rendered`.  So no hypothesis on the values is needed and `c06_total` holds for
     every path string, trailing newline or not.)
  * `mappingOk` asks that sid-side values are non-empty.
     `c06_total` false: template T = `{x:(A|B)}{y}/{y}`, mapping x: A ↦ '' : `AAQ/AQ` is read as
     x=A, y=AQ, mapped to x='', which `dict_to_path` does not map back (empty values are skipped);
     the re-rendered `AQ/AQ` is read as x=A, y001=Q, y002=AQ: ResolvaException out of `Sid(path=…)`.
  * `pathConfOk` asks that template labels are unique.
     `c06_total` false in the model (labels are dict keys in Python, so this is a modelling
     condition): [(T, `{y}{x:(A|B)}/{y}`), (T, `{x:(AA|C)}_{y}`)]: `AA_Q` matches the second
     template, `sid.path()` looks the label up and renders with the FIRST: `QAA/Q`, read back as
     y001=QA, x=A, y002=Q: ResolvaException.

  The literal `.` of a template (the wildcard `Cls.dot`, which can match '/') needs NO extra
  condition: the rendered string has exactly as many '/' as the template has literal '/', so in a
  full-length success every literal '/' sits on a '/' and no wildcard does (`Det.segParse_of_parse`).
-/
import Spil.Spec.PathWF
import Spil.Props.C05
import Spil.Lemmas.DetParse
import Spil.Lemmas.DetC06

namespace C05

open Spec

/-- deterministic parse: the template's own regex, run with CPython's priority semantics and the
    duplicate-placeholder check ON, returns exactly the values that were rendered -/
theorem c05_own_parse (e : Env) (t : Template) (data : Dict) (w : Str)
    (hok : pathTplOk e t = true) (hv : valuesOk e t data = true)
    (hk : (data.map (·.1)).Nodup) (hkeys : Dict.keysEq data (Template.keys t) = true)
    (hne : Template.keys t ≠ [])
    (hw : Template.format t data = some w) (hnl : w.getLast? ≠ some '\n') :
    ∃ d, Resolver.resolveTpl e true t w = .ok (some d) ∧ (∀ k, d.get k = data.get k) ∧
      d.map (·.1) = Template.keys t := by
  -- `hk` and `hnl` are not needed (`c05_own_parse_nl`)
  have _ := hk
  have _ := hnl
  exact Det.resolveTpl_own e true t data w hok hv hkeys hne hw

/-- every value a conform template captures from ANY string it matches is a word of the
    corresponding vocabulary (closed) or '/'-free (free) -/
theorem c05_captures_ok (e : Env) (t : Template) (s : Str) (d : Dict)
    (hok : pathTplOk e t = true) (h : Resolver.resolveTpl e true t s = .ok (some d)) :
    valuesOk e t d = true :=
  Det.valuesOk_of_resolveTpl e t s d hok h

/-- the same without the newline hypothesis: literal text and closed vocabularies are
    newline-free by `atomOk`, and a free placeholder at the very end is greedy -/
theorem c05_own_parse_nl (e : Env) (t : Template) (data : Dict) (w : Str)
    (hok : pathTplOk e t = true) (hv : valuesOk e t data = true)
    (hkeys : Dict.keysEq data (Template.keys t) = true) (hne : Template.keys t ≠ [])
    (hw : Template.format t data = some w) :
    ∃ d, Resolver.resolveTpl e true t w = .ok (some d) ∧ (∀ k, d.get k = data.get k) ∧
      d.map (·.1) = Template.keys t :=
  Det.resolveTpl_own e true t data w hok hv hkeys hne hw

end C05

namespace C06

open Spec

/-- formatting a conform dictionary never hits resolva's duplicate clash -/
theorem c06_no_clash (e : Env) (r : Resolver) (label : Str) (t : Template)
    (hl : r.lookup label = some t) (hok : pathTplOk e t = true)
    (data : Dict) (hv : valuesOk e t data = true) (hk : (data.map (·.1)).Nodup) :
    Resolver.formatOne e r data label ≠ .error .resolva := by
  -- `hk` is not needed
  have _ := hk
  exact Det.formatOne_ne_resolva e r label t hl hok data hv

/-- `Sid(path=p, config=c)` never raises, for EVERY path string, as soon as the configuration
    follows the conventions (and the configuration name exists and `key_types` lists the basetypes
    that have path templates) -/
theorem c06_total (c : Ctx) (p : Str) (cfg : Option Str) (pc : PathConf)
    (hpc : c.cfg.pathConf? cfg = some pc) (hwf : pathConfOk c.env pc = true)
    (hkt : ∀ label, (pc.resolver.lookup label).isSome →
       (c.cfg.sid.keyTypes.lookup (((Str.splitStr label c.cfg.sid.sep).head?).getD [])).isSome) :
    ∃ x, c.sidOfPath p cfg = .ok x :=
  PathL.sidOfPath_total c p cfg (Det.pathToSid_total_of_confOk c p cfg pc hpc hwf hkt)

end C06
