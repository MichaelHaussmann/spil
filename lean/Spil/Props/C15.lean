/-
  Spil.Props.C15 — four namespaces in one file:
    C15 — "Created entities exist, and attribute data reads back what was written"
    C12 — (file-system half) "whatever exists has an existing parent"; exists / children
    C16 — "A Getter returns one record per Sid its Finder finds, in the same order"
    C11 — (junk half) non-conform files never change a FindInPaths result

  Theorems about the abstract file tree of `Spil/Model/FS.lean`, for EVERY world, history of
  writer operations, Sid, attribute dictionary and configuration.
-/
import Spil.Spec.FS
import Spil.Lemmas.FS
import Spil.Lemmas.MapE

namespace C15

open Spec World

variable (d : DCtx)

/-- `mkdir -p` keeps the tree well formed, creates the directory, and removes nothing -/
theorem c15_mkdirP (w w' : World) (p : Str) (hp : CanonPath p) (ht : TreeOk w)
    (h : w.mkdirP p = .ok w') :
    TreeOk w' ∧ w'.kind? p = some Node.dir ∧ (∀ q k, w.kind? q = some k → w'.kind? q = some k) ∧
    w'.sidecars = w.sidecars := by
  obtain ⟨e, hk, hs⟩ := FSL.mkdirP_canon p hp w w' ht h
  exact ⟨e.tree, hk, e.keep, hs⟩

/-- `touch` after creating the parents: same, for a file -/
theorem c15_touchP (w w' : World) (p : Str) (hp : CanonPath p) (ht : TreeOk w)
    (h : w.touchP p = .ok w') :
    TreeOk w' ∧ w'.pathExists p = true ∧ (∀ q k, w.kind? q = some k → w'.kind? q = some k) ∧
    w'.sidecars = w.sidecars := by
  obtain ⟨e, he, hs⟩ := FSL.touchP_canon p hp w w' ht h
  exact ⟨e.tree, he, e.keep, hs⟩

/-- creating an existing entity, or one without a path, fails with SpilException -/
theorem c15_create_errors (w : World) (config : Option Str) (sid : Str) (attrs : Option Dict) (x : Sid)
    (hx : d.ctx.sidOfString sid = .ok x) :
    (d.ctx.sidPath config x = .ok none → d.create w config sid attrs = .error .spil) ∧
    (∀ path, d.ctx.sidPath config x = .ok (some path) → w.pathExists path = true →
       d.create w config sid attrs = .error .spil) := by
  unfold DCtx.create
  rw [hx]
  exact ⟨fun h => by simp [h], fun path h he => by simp [h, he]⟩

/-- updating a non-existing entity, or one without a path, fails with SpilException -/
theorem c15_update_errors (w : World) (config : Option Str) (sid : Str) (attrs : Dict) (x : Sid)
    (hx : d.ctx.sidOfString sid = .ok x) :
    (d.ctx.sidPath config x = .ok none → d.update w config sid attrs = .error .spil) ∧
    (∀ path, d.ctx.sidPath config x = .ok (some path) → w.pathExists path = false →
       d.update w config sid attrs = .error .spil) := by
  unfold DCtx.update
  rw [hx]
  exact ⟨fun h => by simp [h], fun path h he => by simp [h, he]⟩

/-- a successful create makes the entity's path exist, keeps everything that existed, and keeps
    the tree well formed (so every ancestor directory exists too) -/
theorem c15_create_ok (w w' : World) (config : Option Str) (sid : Str) (attrs : Option Dict) (x : Sid) (path : Str) (b : Bool)
    (hx : d.ctx.sidOfString sid = .ok x) (hpth : d.ctx.sidPath config x = .ok (some path))
    (hp : CanonPath path) (ht : TreeOk w) (h : d.create w config sid attrs = .ok (w', b)) :
    TreeOk w' ∧ w'.pathExists path = true ∧ (∀ q k, w.kind? q = some k → w'.kind? q = some k) := by
  obtain ⟨x', path', hx', hpth', e, he⟩ := FSL.create_ext d w w' config sid attrs b h ht
    (fun x' path' hx' hpth' => by cases hx.symm.trans hx'; cases hpth.symm.trans hpth'; exact hp)
  cases hx.symm.trans hx'
  cases hpth.symm.trans hpth'
  exact ⟨e.tree, he, e.keep⟩

/-- writing attributes: the sidecar of `path` afterwards holds the previous data overlaid with the
    new attributes (`dict.update`), every other sidecar and the tree are untouched -/
theorem c15_write (w w' : World) (path : Str) (attrs : Dict) (h : d.writeData w path attrs = .ok w') :
    w'.nodes = w.nodes ∧
    (∃ prev, (w.sidecars.lookup (d.sidecarPath path) = some (.data prev) ∨
              (w.sidecars.lookup (d.sidecarPath path) = none ∧ prev = [])) ∧
       w'.sidecars.lookup (d.sidecarPath path) = some (.data (Dict.update prev attrs))) ∧
    (∀ q, q ≠ d.sidecarPath path → w'.sidecars.lookup q = w.sidecars.lookup q) :=
  FSL.writeData_inv d w w' path attrs h

/-- `dict.update`: later values replace earlier ones, other keys persist -/
theorem c15_overlay (prev attrs : Dict) (k : Str) :
    (Dict.update prev attrs).get k =
      match (attrs.reverse.lookup k) with
      | some v => some v
      | none => prev.get k := by
  rw [Dict.get_update]
  cases attrs.reverse.lookup k <;> rfl

/-- writing fails only on a sidecar that does not decode -/
theorem c15_write_fails (w : World) (path : Str) (attrs : Dict) :
    (∃ e, d.writeData w path attrs = .error e) ↔ w.sidecars.lookup (d.sidecarPath path) = some .corrupt := by
  unfold DCtx.writeData
  simp only
  constructor
  · rintro ⟨e, he⟩
    split at he
    · assumption
    · cases he
    · cases he
  · intro h
    rw [h]
    exact ⟨_, rfl⟩

/-- reading back: after a successful write the data read for the same path (no attribute list,
    `sid_encode` returning None: no `sid` entry) is the overlay -/
theorem c15_read_back (w w' : World) (config : Option Str) (x : Sid) (path : Str) (attrs : Dict)
    (hpth : d.ctx.sidPath config x = .ok (some path)) (h : d.writeData w path attrs = .ok w') :
    ∃ prev, d.getData w' config x [] .none = .ok ((Dict.update prev attrs).map (fun p => (p.1, some p.2))) ∧
      (w.sidecars.lookup (d.sidecarPath path) = some (.data prev) ∨
       (w.sidecars.lookup (d.sidecarPath path) = none ∧ prev = [])) := by
  obtain ⟨_, ⟨prev, hprev, hlk⟩, _⟩ := c15_write d w w' path attrs h
  refine ⟨prev, ?_, hprev⟩
  rw [FSL.getData_nil_none d w' config x path hpth, FSL.stored_of_lookup d w' path _ hlk]

/-- where two paths share a sidecar: same directory and same `stem` of '.' + name (names equal up
    to the last suffix, or both of the form `.x` without a further '.') -/
theorem c15_sidecar_eq (p q : Str) (hp : CanonPath p) (hq : CanonPath q) :
    d.sidecarPath p = d.sidecarPath q ↔
      ((Str.splitOn '/' p).dropLast = (Str.splitOn '/' q).dropLast ∧
       stem ('.' :: PurePath.name p) = stem ('.' :: PurePath.name q)) := by
  -- `hp`, `hq` are not needed: the equivalence holds for all paths
  have _ := hp; have _ := hq
  exact FSL.sidecarPath_eq_iff d p q

end C15

namespace C12

open Spec World

variable (d : DCtx)

/-- whatever exists has existing ancestor directories (`TreeOk`, about paths): the tree invariant
    holds after EVERY history of writer operations starting from the empty tree, provided the
    entity paths are canonical -/
theorem c12_parent_exists (ops : List WOp)
    (hcanon : ∀ config x path, d.ctx.sidPath config x = .ok (some path) → CanonPath path) :
    TreeOk (runOps d World.empty ops) :=
  (FSL.runOps_ext d hcanon ops World.empty ⟨by simp [World.empty], by simp [World.empty]⟩).tree

/-- `sid.exists()` is "find_one yields something" -/
theorem c12_exists (w : World) (x : Sid) (hx : x.typed = true) :
    d.sidExists w x = (d.findInAll w x.string).map (fun l => match l.head? with
      | some s => !s.isEmpty
      | none => false) := by
  unfold DCtx.sidExists DCtx.findOneAll
  have : x.fields.isEmpty = false := by
    unfold Sid.typed at hx; simpa using hx
  simp only [this]
  cases d.findInAll w x.string with
  | error e => rfl
  | ok l => cases l <;> rfl

/-- a leaf Sid has no children -/
theorem c12_leaf_children (w : World) (x : Sid) (h : d.ctx.isLeaf x = true) : d.children w x = .ok [] := by
  unfold DCtx.children
  simp [h]

theorem c12_find_one (w : World) (s : Str) : d.findOneAll w s = (d.findInAll w s).map List.head? := by
  rfl

/-- FindInAll never yields the same string twice -/
theorem c12_find_all_nodup (w : World) (s : Str) (r : List Str) (h : d.findInAll w s = .ok r) : r.Nodup := by
  unfold DCtx.findInAll at h
  split at h
  · cases h
  · split at h
    · cases h
    · cases h
      exact Lst.dedupBy_nodup _

end C12

namespace C16

open Spec World

variable (d : DCtx)

/-- `GetFromPaths.get` yields exactly one record per Sid its Finder yields, in the same order -/
theorem c16_get_map (w : World) (config : Option Str) (search : Str) (attrs : List Str) (enc : DCtx.Enc)
    (recs : List (List (Str × Option Str))) (h : d.getFromPaths w config search attrs enc = .ok recs) :
    ∃ searches sids, d.ctx.findSearches search = .ok searches ∧
      d.pathsDoFindSids w config searches = .ok sids ∧ recs.length = sids.length ∧
      ∀ (i : Nat) (x : Sid) (r : List (Str × Option Str)), sids[i]? = some x → recs[i]? = some r → d.recordOf w config x attrs enc = .ok r := by
  unfold DCtx.getFromPaths at h
  split at h
  · cases h
  · next searches hs =>
    split at h
    · cases h
    · next sids hsids =>
      exact ⟨searches, sids, hs, hsids, Ctx.mapE_length _ sids recs h, Ctx.mapE_getElem? _ sids recs h⟩

/-- with an attributes list each record has exactly those keys, in that order -/
theorem c16_record_keys (w : World) (config : Option Str) (x : Sid) (attrs : List Str) (hne : attrs ≠ [])
    (enc : DCtx.Enc) (r : List (Str × Option Str)) (h : d.getData w config x attrs enc = .ok r)
    (hp : ∃ path, d.ctx.sidPath config x = .ok (some path)) :
    r.map (·.1) = attrs := by
  obtain ⟨path, hpth⟩ := hp
  unfold DCtx.getData at h
  simp only [hpth] at h
  have : attrs.isEmpty = false := by
    cases attrs with
    | nil => exact absurd rfl hne
    | cons _ _ => rfl
  simp only [this] at h
  cases h
  simp [List.map_map, Function.comp_def]

/-- the `sid` entry: the Sid's string under the key `sid` for `sid_encode = str`, the stored data
    untouched when it returns None -/
theorem c16_record_sid (w : World) (config : Option Str) (x : Sid) (path : Str)
    (hp : d.ctx.sidPath config x = .ok (some path)) (hs : x.string ≠ []) :
    (∃ r, d.getData w config x [] .str = .ok r ∧ r.lookup ['s','i','d'] = some (some x.string)) ∧
    (∃ r, d.getData w config x [] .none = .ok r ∧
       r = ((match w.sidecars.lookup (d.sidecarPath path) with
            | some (.data dd) => dd
            | _ => []) : Dict).map (fun (p : Str × Str) => (p.1, some p.2))) := by
  refine ⟨⟨_, FSL.getData_nil_str d w config x path hp hs, ?_⟩,
    _, FSL.getData_nil_none d w config x path hp, rfl⟩
  rw [Lst.lookup_map_snd (fun _ v => some v)]
  exact congrArg (Option.map some) (Dict.get_set _ ['s','i','d'] x.string ['s','i','d'])

/-- a Sid without a path yields an empty record, never an error -/
theorem c16_no_path (w : World) (config : Option Str) (x : Sid) (attrs : List Str) (enc : DCtx.Enc)
    (h : d.ctx.sidPath config x = .ok none) : d.getData w config x attrs enc = .ok [] := by
  unfold DCtx.getData
  rw [h]

end C16

namespace C11

open Spec World

variable (d : DCtx)

/-- a file or folder that does not conform to any template (its path resolves to an untyped Sid,
    or resolving it raises SpilException) never changes what a star search over the tree returns -/
theorem c11_junk_ignored (w : World) (config : Option Str) (searches : List Sid) (p : Str) (k : Node)
    (hj : (∃ x, d.ctx.sidOfPath p config = .ok x ∧ x.typed = false) ∨ d.ctx.sidOfPath p config = .error .spil) :
    d.pathsStarSids { w with nodes := w.nodes ++ [(p, k)] } config searches = d.pathsStarSids w config searches := by
  unfold DCtx.pathsStarSids
  exact FSL.pathsStarGo_add d w w.sidecars config p k searches
    (fun s _ => FSL.verdict_junk d config s p hj) [] []

/-- a conform file of ANOTHER type than every searched one does not change the result either -/
theorem c11_other_type_ignored (w : World) (config : Option Str) (searches : List Sid) (p : Str) (k : Node) (x : Sid)
    (hx : d.ctx.sidOfPath p config = .ok x) (ht : ∀ s ∈ searches, s.type ≠ x.type) :
    d.pathsStarSids { w with nodes := w.nodes ++ [(p, k)] } config searches = d.pathsStarSids w config searches := by
  unfold DCtx.pathsStarSids
  exact FSL.pathsStarGo_add d w w.sidecars config p k searches
    (fun s hs => FSL.verdict_other d config s p x hx (ht s hs)) [] []

/-- in the model sidecars are kept apart from the nodes: the search does not read them -/
theorem c11_sidecars_ignored (w : World) (config : Option Str) (searches : List Sid) (sc : List (Str × Sidecar)) :
    d.pathsStarSids { w with sidecars := sc } config searches = d.pathsStarSids w config searches := by
  unfold DCtx.pathsStarSids
  exact FSL.pathsStarGo_nodes_eq d w { w with sidecars := sc } rfl config searches [] []

/-- every Sid a star search yields has the type of one of the searches, is typed, owns a path
    that exists in the tree, and (repaired `star_search_simple`, D25) its string is matched by the
    string of that search: `re.match(glob2re(str(search)), str(sid))` -/
theorem c11_results_typed (w : World) (config : Option Str) (searches : List Sid) (r : List Sid)
    (h : d.pathsStarSids w config searches = .ok r) :
    ∀ x ∈ r, x.typed = true ∧
      (∃ s ∈ searches, s.type = x.type ∧ Find.globMatch d.ctx.env s.string x.string = .ok true) ∧
      ∃ p, w.pathExists p = true ∧ d.ctx.sidOfPath p config = .ok x := by
  intro x hx
  obtain ⟨s, hs, p, hp, h1, h2, h3, h4⟩ := FSL.pathsStarGo_inv d w config searches [] [] r h x hx
  exact ⟨h2, ⟨s, hs, h3.symm, h4⟩, p, hp, h1⟩

end C11
