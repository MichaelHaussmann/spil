/-
  Spil.Props.C13 — "Answers never depend on what was asked before (caches are invisible)":
  the bookkeeping of the three memoising wrappers, for EVERY call history, capacity and
  eviction choice.
-/
import Spil.Model.Cache
import Spil.Lemmas.Cache

namespace C13

open Cache

/-- Python guarantees that the keyword names of one call are distinct -/
def Call.ok {V} (c : Call V) : Prop := (c.kwargs.map (·.1)).Nodup

/-- transparency of `lru_cache` / `lru_kw_cache`: if equal keys imply equal answers of the wrapped
    function, every call of every history returns what the wrapped function returns, whatever the
    capacity and whatever entries eviction removes -/
theorem c13_transparent_lru {V K R} [DecidableEq K] (key : Call V → K) (f : Call V → R)
    (hcong : ∀ a b, key a = key b → f a = f b) (max : Nat)
    (evict : Store K R → Store K R) (hev : ∀ st, ∀ p ∈ evict st, p ∈ st) (hist : List (Call V)) :
    runHist (stepLru key f max evict) [] hist = hist.map f := by
  rw [stepLru_eq_stepHit]
  exact hit_transparent (fun _ => True) key f _ (fun a b _ _ => hcong a b) max evict hev hist
    (fun _ _ => trivial)

/-- the same for `hit_cache` (falsy answers are recomputed, never stored) -/
theorem c13_transparent_hit {V K R} [DecidableEq K] (key : Call V → K) (f : Call V → R)
    (truthy : R → Bool) (hcong : ∀ a b, key a = key b → f a = f b) (max : Nat)
    (evict : Store K R → Store K R) (hev : ∀ st, ∀ p ∈ evict st, p ∈ st) (hist : List (Call V)) :
    runHist (stepHit key f truthy max evict) [] hist = hist.map f :=
  hit_transparent (fun _ => True) key f truthy (fun a b _ _ => hcong a b) max evict hev hist
    (fun _ _ => trivial)

/-- the real eviction (`popitem`) only removes entries -/
theorem c13_popitem_sub {K R} (st : Store K R) : ∀ p ∈ popitem st, p ∈ st := by
  intro p hp
  exact List.dropLast_subset st hp

set_option linter.unusedVariables false in
/-- the repaired key determines the positional values and the keyword items (up to order);
    = `Cache.newKey_inj`, which shows that `ha`, `hb` and `[DecidableEq V]` are not needed -/
theorem c13_newkey_inj {V} [DecidableEq V] (a b : Call V) (ha : Call.ok a) (hb : Call.ok b)
    (h : newKey a = newKey b) : a.args = b.args ∧ sortKw a.kwargs = sortKw b.kwargs := by
  exact newKey_inj a b h

/-- hence it is congruent for every function that sees its arguments through Python's binding:
    calls with equal keys bind to the same parameter values, for every signature -/
theorem c13_newkey_bind {V} [DecidableEq V] (sig : Sig V) (a b : Call V) (ha : Call.ok a) (hb : Call.ok b)
    (h : newKey a = newKey b) : bind sig a = bind sig b := by
  obtain ⟨h1, h2⟩ := newKey_inj a b h
  unfold Cache.bind
  rw [bindGo_perm sig a.args _ _ (sortKw_perm a.kwargs).symm ha,
    bindGo_perm sig b.args _ _ (sortKw_perm b.kwargs).symm hb, h1, h2]

/-- fresh-process form: a wrapped function that depends on the bound parameters only (`g ∘ bind`)
    is answered through the cache exactly as without it, over histories of well-formed calls -/
theorem c13_fresh {V R} [DecidableEq V] (sig : Sig V) (g : Option (List V) → R) (max : Nat)
    (evict : Store (List (KeyPart V)) R → Store (List (KeyPart V)) R)
    (hev : ∀ st, ∀ p ∈ evict st, p ∈ st) (hist : List (Call V)) (hok : ∀ c ∈ hist, Call.ok c) :
    runHist (stepLru newKey (fun c => g (bind sig c)) max evict) [] hist
      = hist.map (fun c => g (bind sig c)) := by
  rw [stepLru_eq_stepHit]
  exact hit_transparent Call.ok newKey _ _
    (fun a b ha hb hk => congrArg g (c13_newkey_bind sig a b ha hb hk)) max evict hev hist hok

/-- regression witness (defect D1): the original key ignores keyword VALUES — two calls that bind
    differently share a key, and a two-call history is answered wrongly -/
theorem c13_oldkey_not_congruent :
    ∃ (sig : Sig Nat) (a b : Call Nat), oldKey a = oldKey b ∧ bind sig a ≠ bind sig b :=
  ⟨[(['p'], none), (['c'], some 0)], ⟨[7], [(['c'], 1)]⟩, ⟨[7], [(['c'], 2)]⟩, by decide, by decide⟩

/-- `4096` is `caching._max_size` -/
theorem c13_oldkey_wrong_answer :
    ∃ (sig : Sig Nat) (hist : List (Call Nat)),
      runHist (stepLru oldKey (fun c => bind sig c) 4096 popitem) [] hist ≠ hist.map (fun c => bind sig c) :=
  ⟨[(['p'], none), (['c'], some 0)], [⟨[7], [(['c'], 1)]⟩, ⟨[7], [(['c'], 2)]⟩], by decide⟩

end C13
