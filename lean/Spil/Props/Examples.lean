/-
  Spil.Props.Examples — non-vacuity: the hypotheses of the property theorems are met by concrete,
  non-trivial instances of the SHIPPED configuration (re-checked by the kernel on every run against
  the regenerated `DemoConf.lean`).  The second half (namespace `C12`; this is the module the C12
  check names for them) holds general results: canonicity of entity paths (the hypothesis of
  `C12.c12_parent_exists`) is discharged for templates rooted at an absolute literal (`rootedOk`,
  `c12_paths_canonical`, `c12_parent_exists_rooted`), with the counterexample showing that the
  literal must not start with "/.".
-/
import Spil.Generated.DemoConf
import Spil.Props.C02
import Spil.Props.C15
import Spil.Props.Tie
import Spil.Props.C05c
import Spil.Lemmas.Canon

namespace Examples

open Spec Generated

def demoCtx : Ctx := ⟨demoConf, demoEnv⟩

/-- "hamlet/a/char" -/
def sAssettype : Str := ['h','a','m','l','e','t','/','a','/','c','h','a','r']
/-- "hamlet/s/sq001/sh0010/anim/v001/w/ma" -/
def sShotFile : Str := ['h','a','m','l','e','t','/','s','/','s','q','0','0','1','/','s','h','0','0','1','0','/','a','n','i','m','/','v','0','0','1','/','w','/','m','a']
/-- "hamlet/*/*" : a search string two basetypes accept -/
def sAmbiguous : Str := ['h','a','m','l','e','t','/','*','/','*']

/-- the shipped table types these strings (first accepting template), i.e. the `natural` hypothesis
    of C02 / C03 is inhabited by concrete and by search Sids -/
theorem ex_natural_assettype : (plainSid demoEnv demoConf.sid.templates sAssettype).type =
    ['a','s','s','e','t','_','_','a','s','s','e','t','t','y','p','e'] := by decide +kernel

theorem ex_natural_shotfile : (plainSid demoEnv demoConf.sid.templates sShotFile).type =
    ['s','h','o','t','_','_','f','i','l','e'] := by decide +kernel

theorem ex_natural_search : (plainSid demoEnv demoConf.sid.templates sAmbiguous).typed = true := by decide +kernel

theorem ex_natural (s : Str) (h : (plainSid demoEnv demoConf.sid.templates s).typed = true) :
    natural demoEnv demoConf.sid.templates (plainSid demoEnv demoConf.sid.templates s) := by
  refine ⟨h, ?_⟩
  rw [SidL.plainSid_string]

/-- C01 instantiated: the operational model gives that very Sid -/
theorem ex_c01 : demoCtx.sidOfString sShotFile = .ok (plainSid demoEnv demoConf.sid.templates sShotFile) :=
  C01.c01_plain demoCtx (HierL.hier_unpack _ _ Tie.demo_wf).1 sShotFile (by decide) (by decide) (by decide)

/-- `parent` evaluated on the shipped configuration: the parent of the shot file is its state -/
theorem ex_c03_parent : ∃ p, demoCtx.parent (plainSid demoEnv demoConf.sid.templates sShotFile) = .ok p ∧
    p.fields.length = 7 := by
  have h : (match demoCtx.parent (plainSid demoEnv demoConf.sid.templates sShotFile) with
      | .ok p => p.fields.length == 7
      | .error _ => false) = true := by decide +kernel
  split at h
  · next p hp => exact ⟨p, hp, by simpa using h⟩
  · cases h

end Examples

namespace C12

open Spec

/-- = `CanonL.normalize_canon` -/
theorem normalize_canon (p : Str) (h1 : PurePath.leadingSlashes p = 1)
    (hc : ((Str.splitOn '/' p).filter PurePath.keep) ≠ []) : CanonPath (PurePath.normalize p) :=
  CanonL.normalize_canon p h1 hc

/-- the hypothesis of `c12_parent_exists`, discharged: every path `Sid.path` returns is canonical
    as soon as every path template of the configuration starts with a literal "/x…" (an absolute
    root, `x` neither '/' nor '.') — which `rootedOk` decides.  `c != '.'` is needed: with
    `c != '/'` only (`rootedOkOrig`) `c12_paths_canonical` is false (`rootedOk_orig_counterexample`:
    a template "/.{a}" with `a = ""` formats to "/.", which `PurePosixPath` normalises to "/") -/
def rootedOk (pc : PathConf) : Bool :=
  pc.templates.all (fun lt => match lt.2 with
    | .lit ('/' :: c :: _) :: _ => c != '/' && c != '.'
    | _ => false)

/-- the test without `c != '.'`: too weak (`rootedOk_orig_counterexample`) -/
def rootedOkOrig (pc : PathConf) : Bool :=
  pc.templates.all (fun lt => match lt.2 with
    | .lit ('/' :: c :: _) :: _ => c != '/'
    | _ => false)

/-- a configuration with the single path template "/.{a:[^/]*}" -/
def cexCtx : Ctx :=
  { cfg := { sid := { sep := ['_','_'], searchSymbols := [], templates := [], keyTypes := [], leafKeys := [],
                      extensionAlias := [], basetypedNarrowing := [], typedNarrowing := [] }
             paths := [{ name := ['l'], templates := [(['t'], [.lit ['/','.'], .ph ['a'] (Re.star Cls.notSlash)])],
                         mapping := [], defaults := [], searchMapping := [] }]
             defaultPath := ['l'], dataSuffix := [] }
    env := { isDigit := fun _ => false } }

/-- the weaker test accepts the configuration, yet the Sid `t` with field `a = ""` has path "/",
    which is not a canonical entity path -/
theorem rootedOk_orig_counterexample :
    cexCtx.cfg.paths.all rootedOkOrig = true ∧
    cexCtx.sidPath none ⟨[], ['t'], [(['a'], [])]⟩ = .ok (some ['/']) ∧ ¬ CanonPath ['/'] :=
  ⟨by decide +kernel, C05.eq_ok_of_test _ _ (by decide +kernel), FSL.not_canonPath_root⟩

theorem rootedOk_unpack (pc : PathConf) (h : rootedOk pc = true) (l : Str) (t : Template)
    (hm : (l, t) ∈ pc.templates) :
    ∃ c s rest, t = .lit ('/' :: c :: s) :: rest ∧ c ≠ '/' ∧ c ≠ '.' := by
  unfold rootedOk at h
  rw [List.all_eq_true] at h
  have := h (l, t) hm
  simp only at this
  split at this
  · next c s rest =>
    simp only [Bool.and_eq_true, bne_iff_ne, ne_eq] at this
    exact ⟨c, s, rest, rfl, this.1, this.2⟩
  · cases this

theorem c12_paths_canonical (c : Ctx) (hroot : c.cfg.paths.all rootedOk = true)
    (cfg : Option Str) (x : Sid) (path : Str) (h : c.sidPath cfg x = .ok (some path)) : CanonPath path := by
  obtain ⟨pc, t, d, raw, hpc, ht, hf, rfl⟩ := CanonL.sidPath_mem c cfg x path h
  rw [List.all_eq_true] at hroot
  obtain ⟨ch, s, rest, rfl, h1, h2⟩ := rootedOk_unpack pc (hroot pc hpc) _ _ ht
  obtain ⟨r, _, rfl⟩ := (SidL.format_lit_cons ..).1 hf
  exact CanonL.normalize_rooted ch (s ++ r) h1 h2

theorem demo_rooted : Generated.demoConf.paths.all rootedOk = true := by decide +kernel

/-- whatever exists has an existing parent, with the canonicity hypothesis discharged -/
theorem c12_parent_exists_rooted (d : DCtx) (hroot : d.ctx.cfg.paths.all rootedOk = true) (ops : List WOp) :
    TreeOk (runOps d World.empty ops) :=
  c12_parent_exists d ops (fun config x path h => c12_paths_canonical d.ctx hroot config x path h)

end C12
