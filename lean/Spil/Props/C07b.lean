/-
  Spil.Props.C07b — typing of search strings: `simple_typing` takes EVERY template that accepts
  the string; `expand` replaces a single "/**" by exactly the numbers of "/*" levels that complete
  the string to a LEAF type (a template ending in the leaf key of the root's basetype).
  For every well-formed template table and every query-free search string without ':'.
-/
import Spil.Lemmas.DenoteExpand

namespace C07

open Spec DenL

variable (c : Ctx)

/-- `simple_typing`: the typed results are exactly the Sids `type:string` for the templates that
    accept the string (untyped leftovers are removed later by `unfold_search`) -/
-- `hr` (the string does not START with "/*") is needed.  `simple_typing` first types the text
-- before the first "/*"; when that root is empty (`Sid("")` has no basetype) it falls back to
-- `[Sid(s)]`, i.e. only the FIRST accepting template.  Counterexample (evaluated in the model):
-- templates a = `{k1}`, b = `{k1}/{k2}`, c = `{k1}/{k3}` (all `[^/]*`, `sidHierOk` holds), s = "/*":
-- b and c both accept "/*" (empty first segment) but `simpleTyping "/*" = [b:/*]`, so the `←`
-- direction fails for `c:/*`.  What happens for such strings is `c07_simple_typing_rootless` below.
theorem c07_simple_typing (hwf : sidHierOk c.env c.cfg.sid.templates = true)
    (s : Str) (hq : '?' ∉ s) (hc : ':' ∉ s) (hr : ¬ ['/', '*'] <+: s)
    (r : List Sid) (h : c.simpleTyping s = .ok r) (x : Sid) :
    (x ∈ r ∧ x.typed = true) ↔
      ∃ p ∈ c.cfg.sid.templates, accepts c.env p.2 s = true ∧ s ≠ [] ∧ x = typedAs p.1 p.2 s := by
  obtain ⟨r', he, _, hiff⟩ := simpleTyping_spec c hwf s hq hc hr
  rw [he] at h
  cases h
  exact hiff x

/-- a string that starts with "/*" has an empty root: `simple_typing` returns `[Sid(s)]`, the first
    accepting template only (the case excluded from `c07_simple_typing`) -/
theorem c07_simple_typing_rootless (hwf : sidHierOk c.env c.cfg.sid.templates = true)
    (b : Str) (hq : '?' ∉ b) (hc : ':' ∉ b) :
    c.simpleTyping ('/' :: '*' :: b) = .ok [plainSid c.env c.cfg.sid.templates ('/' :: '*' :: b)] := by
  have hroot : ExpL.starRoot ('/' :: '*' :: b) = [] := by
    simp [ExpL.starRoot, Str.splitStr, Str.splitStrGo]
  rw [ExpL.simpleTyping_eq c hwf _ (by simp [hq]) (by simp [hc]), hroot]
  rfl

/-- `simple_typing` never fails on a query-free string without ':' -/
theorem c07_simple_typing_total (hwf : sidHierOk c.env c.cfg.sid.templates = true)
    (s : Str) (hq : '?' ∉ s) (hc : ':' ∉ s) :
    ∃ r, c.simpleTyping s = .ok r :=
  ⟨_, ExpL.simpleTyping_eq c hwf s hq hc⟩

/-- `expand` (soundness): every typed result is `type:filled` for some number `k ≥ 0` of "/*"
    levels and some LEAF template accepting the filled string -/
theorem c07_expand_sound (hwf : sidHierOk c.env c.cfg.sid.templates = true)
    (s : Str) (hq : '?' ∉ s) (hc : ':' ∉ s)
    (h1 : Str.count s ['/', '*', '*'] = 1)
    (r : List Sid) (h : c.expand s false = .ok r) (x : Sid) (hx : x ∈ r) (ht : x.typed = true) :
    ∃ k, ∃ p ∈ c.cfg.sid.templates, ∃ rootSid bt lk,
      c.sidOfString (rootOf s) = .ok rootSid ∧ c.basetype rootSid = some bt ∧
      c.cfg.sid.leafKey (some bt) = some lk ∧ (keysOf p.2).getLast? = some lk ∧
      accepts c.env p.2 (fill s k) = true ∧ x = typedAs p.1 p.2 (fill s k) := by
  obtain ⟨htab, _, _, _⟩ := HierL.hier_unpack _ _ hwf
  obtain ⟨hqr, hcr⟩ := rootOf_plain s hq hc h1
  rcases expand_stars c hwf s hq hc h1 with ⟨_, he⟩ | ⟨_, r', he, _, hiff⟩
  · rw [he] at h
    cases h
  · rw [he] at h
    cases h
    obtain ⟨lk, k, hrk, p, hp, hleaf, hacc, e⟩ := (hiff x).1 ⟨hx, ht⟩
    obtain ⟨_, bt, hbt, hlk⟩ := (rootLeafKey_some c htab _ _).1 hrk
    exact ⟨k, p, hp, _, bt, lk, ExpL.sidOfString_plain c htab _ hqr hcr, hbt, hlk, hleaf, hacc, e⟩

/-- `expand` (completeness): every leaf template that accepts the string filled with some number
    of levels contributes its typed search -/
theorem c07_expand_complete (hwf : sidHierOk c.env c.cfg.sid.templates = true)
    (s : Str) (hq : '?' ∉ s) (hc : ':' ∉ s)
    (h1 : Str.count s ['/', '*', '*'] = 1)
    (r : List Sid) (h : c.expand s false = .ok r)
    (rootSid : Sid) (bt lk : Str) (hroot : c.sidOfString (rootOf s) = .ok rootSid)
    (hbt : c.basetype rootSid = some bt) (hlk : c.cfg.sid.leafKey (some bt) = some lk)
    (k : Nat) (p : Str × Template) (hp : p ∈ c.cfg.sid.templates)
    (hleaf : (keysOf p.2).getLast? = some lk) (hacc : accepts c.env p.2 (fill s k) = true) :
    ∃ y ∈ r, y.uri = (typedAs p.1 p.2 (fill s k)).uri := by
  obtain ⟨htab, _, _, _⟩ := HierL.hier_unpack _ _ hwf
  obtain ⟨hqr, hcr⟩ := rootOf_plain s hq hc h1
  rw [ExpL.sidOfString_plain c htab _ hqr hcr] at hroot
  cases hroot
  rcases expand_stars c hwf s hq hc h1 with ⟨_, he⟩ | ⟨⟨lk', hrk⟩, r', he, _, hiff⟩
  · rw [he] at h
    cases h
  · rw [he] at h
    cases h
    -- the model's leaf key is the one of the specification
    obtain ⟨_, bt', hbt', hlk'⟩ := (rootLeafKey_some c htab _ _).1 hrk
    rw [hbt] at hbt'
    cases hbt'
    rw [hlk] at hlk'
    cases hlk'
    exact ⟨_, ((hiff _).2 ⟨lk, k, hrk, p, hp, hleaf, hacc, rfl⟩).1, rfl⟩

/-- the only error `expand` raises on a query-free string without ':' that has "/**" is SpilException (when it is
    raised: `DenL.expand_stars`, `DenL.count_ge_two_error`) -/
theorem c07_expand_errors (hwf : sidHierOk c.env c.cfg.sid.templates = true)
    (s : Str) (hq : '?' ∉ s) (hc : ':' ∉ s)
    (h1 : 1 ≤ Str.count s ['/', '*', '*']) :
    (∃ r, c.expand s false = .ok r) ∨ c.expand s false = .error .spil := by
  by_cases h : Str.count s ['/', '*', '*'] = 1
  · rcases expand_stars c hwf s hq hc h with ⟨_, he⟩ | ⟨_, r, he, _⟩
    · exact Or.inr he
    · exact Or.inl ⟨r, he⟩
  · have h2 : 2 ≤ Str.count s ['/', '*', '*'] := by omega
    exact Or.inr (count_ge_two_error c s h2)

/-- a string without "/**" is typed by `simple_typing` -/
theorem c07_expand_plain (s : Str) (h0 : Str.count s ['/', '*', '*'] = 0) (b : Bool) :
    c.expand s b = c.simpleTyping s :=
  ExpL.expand_of_count_zero c s h0 b

end C07
