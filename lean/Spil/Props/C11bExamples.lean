/-
  Spil.Props.C11bExamples — non-vacuity of C11b on the SHIPPED configuration (a small world, a
  whole-segment star search, every hypothesis of the theorems discharged by the kernel), the
  regression witness of the repaired soundness defect (D25), and the counterexamples showing that
  each hypothesis of `c11_pattern_matches` is needed.  GENERATED char lists; the statements are
  re-decided by the kernel on every build against the regenerated `DemoConf.lean`.
-/
import Spil.Generated.DemoConf
import Spil.Props.C11b
import Spil.Props.Tie
import Spil.Props.C05c

namespace C11Ex

open Spec Generated GlobL FSL

def demoCtx : Ctx := ⟨demoConf, demoEnv⟩
/-- `DataConf` fields in order: the Finders (one `FindInPaths()`), no routing by type, default
    Finder 0, no type without Getter, a default Getter; only the first matters for `FindInPaths` -/
def demoD : DCtx := ⟨demoCtx, ⟨[.paths none], [], some 0, [], true⟩⟩

/-- a result is `.ok y` when the Boolean test `C05.okIs` says so: how the kernel-evaluated answers
    of this and the following example files enter the proofs -/
theorem okIs_eq {α : Type} [DecidableEq α] (x : Except Err α) (y : α) (h : C05.okIs x y = true) :
    x = .ok y := C05.eq_ok_of_test x y h

def wellTypedB (e : Env) (ts : List (Str × Template)) (x : Sid) : Bool :=
  match ts.lookup x.type with
  | some t => !x.string.isEmpty && accepts e t x.string && decide (x.fields = fieldsOf t x.string)
  | none => false

theorem wellTyped_of_B (e : Env) (ts : List (Str × Template)) (x : Sid) (h : wellTypedB e ts x = true) :
    wellTyped e ts x := by
  unfold wellTypedB at h
  split at h
  · next t ht =>
    simp only [Bool.and_eq_true, Bool.not_eq_true', decide_eq_true_eq] at h
    refine ⟨t, ht, ?_, h.1.2, h.2⟩
    intro e0; rw [e0] at h; simp at h
  · cases h

/-! ### the star search on a tree whose `Sid(path=…)` answers are known -/

def tabAnswer (tab : List (Str × Sid)) (p : Str) : Except Err Sid :=
  match tab.lookup p with
  | some x => .ok x
  | none => .error .other

/-- the star search for one search Sid whose pattern is known, on a tree whose globbed paths have
    their `Sid(path=…)` answers in a table: the model's own fold, reading the table -/
theorem pathsStarSids_of_table (d : DCtx) (w : World) (config : Option Str) (s : Sid) (pat : Str)
    (hpat : d.ctx.sidPath config s = .ok (some pat)) (ps : List Str) (hglob : w.glob pat = ps)
    (tab : List (Str × Sid)) (htab : ∀ px ∈ tab, d.ctx.sidOfPath px.1 config = .ok px.2)
    (hcov : ps.all (fun p => (tab.lookup p).isSome) = true) :
    d.pathsStarSids w config [s] =
      (ps.foldl (memoStep (fun p => verdictOf d.ctx.env s (tabAnswer tab p))) (.ok ([], []))).map (·.1) := by
  subst hglob
  refine pathsStarSids_single d w config s pat hpat _ fun p hp => ?_
  have hsome := List.all_eq_true.1 hcov p hp
  cases hl : tab.lookup p with
  | none => rw [hl] at hsome; cases hsome
  | some x =>
    rw [verdict, htab (p, x) (Lst.lookup_mem _ _ _ hl)]
    unfold tabAnswer
    rw [hl]

/-! ### the demo world -/

/-- "hamlet/a/*/*/model/*/w/ma" -/
def sStr : Str := ['h','a','m','l','e','t','/','a','/','*','/','*','/','m','o','d','e','l','/','*','/','w','/','m','a']
def sSid : Sid :=
  ⟨['h','a','m','l','e','t','/','a','/','*','/','*','/','m','o','d','e','l','/','*','/','w','/','m','a'],
    ['a','s','s','e','t','_','_','f','i','l','e'],
    [(['p','r','o','j','e','c','t'], ['h','a','m','l','e','t']),
     (['t','y','p','e'], ['a']),
     (['a','s','s','e','t','t','y','p','e'], ['*']),
     (['a','s','s','e','t'], ['*']),
     (['t','a','s','k'], ['m','o','d','e','l']),
     (['v','e','r','s','i','o','n'], ['*']),
     (['s','t','a','t','e'], ['w']),
     (['e','x','t'], ['m','a'])]⟩
/-- the glob pattern of the search -/
def sPat : Str := ['/','R','/','d','a','t','a','/','t','e','s','t','i','n','g','/','S','P','I','L','_','P','R','O','J','E','C','T','S','/','L','O','C','A','L','/','P','R','O','J','E','C','T','S','/','H','A','M','L','E','T','/','P','R','O','D','/','A','S','S','E','T','S','/','*','/','*','/','m','o','d','e','l','/','*','/','*','_','*','_','m','o','d','e','l','_','W','O','R','K','_','*','.','m','a']
/-- "hamlet/a/char/ophelia/model/v001/w/ma" and its file -/
def e1 : Sid :=
  ⟨['h','a','m','l','e','t','/','a','/','c','h','a','r','/','o','p','h','e','l','i','a','/','m','o','d','e','l','/','v','0','0','1','/','w','/','m','a'],
    ['a','s','s','e','t','_','_','f','i','l','e'],
    [(['p','r','o','j','e','c','t'], ['h','a','m','l','e','t']),
     (['t','y','p','e'], ['a']),
     (['a','s','s','e','t','t','y','p','e'], ['c','h','a','r']),
     (['a','s','s','e','t'], ['o','p','h','e','l','i','a']),
     (['t','a','s','k'], ['m','o','d','e','l']),
     (['v','e','r','s','i','o','n'], ['v','0','0','1']),
     (['s','t','a','t','e'], ['w']),
     (['e','x','t'], ['m','a'])]⟩
def p1 : Str := ['/','R','/','d','a','t','a','/','t','e','s','t','i','n','g','/','S','P','I','L','_','P','R','O','J','E','C','T','S','/','L','O','C','A','L','/','P','R','O','J','E','C','T','S','/','H','A','M','L','E','T','/','P','R','O','D','/','A','S','S','E','T','S','/','c','h','a','r','/','o','p','h','e','l','i','a','/','m','o','d','e','l','/','v','0','0','1','/','c','h','a','r','_','o','p','h','e','l','i','a','_','m','o','d','e','l','_','W','O','R','K','_','v','0','0','1','.','m','a']
/-- "hamlet/a/prop/skull/model/v002/w/ma" and its file -/
def e2 : Sid :=
  ⟨['h','a','m','l','e','t','/','a','/','p','r','o','p','/','s','k','u','l','l','/','m','o','d','e','l','/','v','0','0','2','/','w','/','m','a'],
    ['a','s','s','e','t','_','_','f','i','l','e'],
    [(['p','r','o','j','e','c','t'], ['h','a','m','l','e','t']),
     (['t','y','p','e'], ['a']),
     (['a','s','s','e','t','t','y','p','e'], ['p','r','o','p']),
     (['a','s','s','e','t'], ['s','k','u','l','l']),
     (['t','a','s','k'], ['m','o','d','e','l']),
     (['v','e','r','s','i','o','n'], ['v','0','0','2']),
     (['s','t','a','t','e'], ['w']),
     (['e','x','t'], ['m','a'])]⟩
def p2 : Str := ['/','R','/','d','a','t','a','/','t','e','s','t','i','n','g','/','S','P','I','L','_','P','R','O','J','E','C','T','S','/','L','O','C','A','L','/','P','R','O','J','E','C','T','S','/','H','A','M','L','E','T','/','P','R','O','D','/','A','S','S','E','T','S','/','p','r','o','p','/','s','k','u','l','l','/','m','o','d','e','l','/','v','0','0','2','/','p','r','o','p','_','s','k','u','l','l','_','m','o','d','e','l','_','W','O','R','K','_','v','0','0','2','.','m','a']
/-- a file that conforms to no template -/
def pJunk : Str := ['/','R','/','d','a','t','a','/','t','e','s','t','i','n','g','/','S','P','I','L','_','P','R','O','J','E','C','T','S','/','L','O','C','A','L','/','P','R','O','J','E','C','T','S','/','H','A','M','L','E','T','/','P','R','O','D','/','A','S','S','E','T','S','/','c','h','a','r','/','o','p','h','e','l','i','a','/','m','o','d','e','l','/','v','0','0','1','/','n','o','t','e','s','.','t','x','t']

def w2 : World := ⟨[(p1, .file), (pJunk, .file), (p2, .file)], []⟩

theorem ex_search : demoCtx.sidOfString sStr = .ok sSid := okIs_eq _ _ (by decide +kernel)
theorem ex_pat : demoCtx.sidPath none sSid = .ok (some sPat) := okIs_eq _ _ (by decide +kernel)
theorem ex_rt1 : demoCtx.sidOfPath p1 none = .ok e1 := okIs_eq _ _ (by decide +kernel)
theorem ex_rt2 : demoCtx.sidOfPath p2 none = .ok e2 := okIs_eq _ _ (by decide +kernel)
theorem ex_junk : demoCtx.sidOfPath pJunk none = .ok Sid.empty := okIs_eq _ _ (by decide +kernel)
theorem ex_pc : demoCtx.cfg.pathConf? none = some demoPath_local := rfl

/-- `Sid(path=…)` never raises on the shipped configuration: the totality hypothesis of C11b,
    discharged by C06 -/
theorem demo_total (p : Str) : ∃ x, demoCtx.sidOfPath p none = .ok x := by
  apply C11.c11_total_of_wf demoD none demoPath_local ex_pc Tie.demo_path_wf_local
  intro label hl
  have hall : demoPath_local.templates.all (fun lt =>
      (demoConf.sid.keyTypes.lookup (((Str.splitStr lt.1 demoConf.sid.sep).head?).getD [])).isSome) = true := by
    decide +kernel
  cases hlk : demoPath_local.resolver.lookup label with
  | none => rw [hlk] at hl; cases hl
  | some t => exact List.all_eq_true.1 hall _ (Lst.lookup_mem _ _ _ hlk)

theorem ex_starFixed : starFixed demoPath_local = true ∧ starFixed demoPath_server = true := by
  decide +kernel

theorem demo_fix (pc : PathConf) (h : demoCtx.cfg.pathConf? none = some pc) : starFixed pc = true := by
  cases ex_pc.symm.trans h
  exact ex_starFixed.1

theorem ex_glob1 : SidGlob sSid e1 := by decide +kernel
theorem ex_glob2 : SidGlob sSid e2 := by decide +kernel
theorem ex_pathSide : pathSideOk demoPath_local = true := by decide +kernel

/-- `entityValsOk` from the values of the Sid and the path-side values of the configuration
    (`c11_entityValsOk`), not by evaluation -/
theorem ex_vals1' : entityValsOk demoCtx none e1 = true :=
  C11.c11_entityValsOk demoCtx none e1 p1 (C06.c06_owner demoCtx p1 none e1 ex_rt1 (by decide))
    (fun pc h => by cases ex_pc.symm.trans h; exact ex_pathSide)
    (by decide +kernel)

theorem ex_vals2 : entityValsOk demoCtx none e2 = true := by decide +kernel
theorem ex_nobracket : '[' ∉ sPat := by decide +kernel
theorem ex_nobracket_s : '[' ∉ sSid.string := by decide +kernel
theorem ex_wt_s : wellTyped demoEnv demoConf.sid.templates sSid := wellTyped_of_B _ _ _ (by decide +kernel)
theorem ex_wt_1 : wellTyped demoEnv demoConf.sid.templates e1 := wellTyped_of_B _ _ _ (by decide +kernel)
theorem ex_wt_2 : wellTyped demoEnv demoConf.sid.templates e2 := wellTyped_of_B _ _ _ (by decide +kernel)
theorem ex_whole : wholeStar sStr := by decide +kernel

/-- (1) instantiated: the search succeeds, without duplicates, with the stated membership -/
theorem ex_star_one : ∃ r, demoD.pathsStarSids w2 none [sSid] = .ok r ∧ r.Nodup ∧
    ∀ x, x ∈ r ↔ ∃ p ∈ w2.glob sPat,
      demoCtx.sidOfPath p none = .ok x ∧ x.typed = true ∧ x.type = sSid.type ∧
      Find.globMatch demoEnv sSid.string x.string = .ok true :=
  C11.c11_star_one demoD w2 none sSid sPat ex_pat ex_nobracket_s (fun p _ => demo_total p)

/-- (2) instantiated: the pattern matches the entity's path component by component -/
theorem ex_pattern_matches :
    (Str.splitOn '/' sPat).length = (Str.splitOn '/' p1).length ∧
    ∀ (i : Nat) (a b : Str), (Str.splitOn '/' sPat)[i]? = some a → (Str.splitOn '/' p1)[i]? = some b →
      World.compMatch a b = true :=
  C11.c11_pattern_matches demoCtx none sSid e1 sPat p1 ex_pat
    (C06.c06_owner demoCtx p1 none e1 ex_rt1 (by decide)) ex_glob1 demo_fix ex_vals1' ex_nobracket

/-- (3) instantiated: both entities are found — derived from the theorems, not by evaluation -/
theorem ex_complete : ∃ r, demoD.pathsStarSids w2 none [sSid] = .ok r ∧ e1 ∈ r ∧ e2 ∈ r := by
  obtain ⟨r, hr, _, _⟩ := ex_star_one
  refine ⟨r, hr, ?_, ?_⟩
  · exact C11.c11_complete demoD w2 none sSid e1 sPat p1 r ex_pat ex_wt_s ex_wt_1 ex_nobracket_s
      (by decide +kernel) ex_rt1 (by decide)
      ex_glob1 demo_fix ex_vals1' ex_nobracket (fun p _ => demo_total p) hr
  · exact C11.c11_complete demoD w2 none sSid e2 sPat p2 r ex_pat ex_wt_s ex_wt_2 ex_nobracket_s
      (by decide +kernel) ex_rt2 (by decide)
      ex_glob2 demo_fix ex_vals2 ex_nobracket (fun p _ => demo_total p) hr

/-- and by evaluation of the model: exactly these two, the junk file is ignored -/
theorem ex_eval : demoD.pathsStarSids w2 none [sSid] = .ok [e1, e2] :=
  (pathsStarSids_of_table demoD w2 none sSid sPat ex_pat [p1, p2] (by decide +kernel)
    [(p1, e1), (p2, e2)] (by simp [demoD, ex_rt1, ex_rt2]) (by decide)).trans
    (okIs_eq _ _ (by decide +kernel))


theorem ex_list : Find.starSearch demoEnv ⟨[e1, e2].map (·.string), false⟩ [sSid.string] =
    .ok [e1.string, e2.string] := okIs_eq _ _ (by decide +kernel)

/-- FindInList ⊆ FindInPaths, instantiated with every hypothesis discharged -/
theorem ex_list_subset_paths :
    ∀ e ∈ [e1, e2], e.type = sSid.type → e.string ∈ [e1.string, e2.string] → e ∈ [e1, e2] := by
  apply C11.c11_list_subset_paths demoD w2 none sSid sPat [e1, e2] [e1.string, e2.string] [e1, e2]
    ex_pat ex_wt_s ex_whole (by decide +kernel) ex_nobracket demo_fix (fun p _ => demo_total p) ?_
    ex_list ex_eval
  intro e he
  simp only [List.mem_cons, List.not_mem_nil, or_false] at he
  rcases he with rfl | rfl
  · exact ⟨ex_wt_1, by decide, ex_vals1', p1, by decide +kernel, ex_rt1⟩
  · exact ⟨ex_wt_2, by decide, ex_vals2, p2, by decide +kernel, ex_rt2⟩

/-- fields ⇒ strings on the demo Sids -/
theorem ex_string_glob : Glob sSid.string e1.string :=
  C11.c11_string_glob demoEnv demoConf.sid.templates sSid e1 ex_wt_s ex_wt_1 ex_glob1 (by decide +kernel)

/-! ### (4) the repaired soundness defect (D25): regression witness -/

/-- "hamlet/a/char/*/model/*/w/ma": state `w` (WORK) is searched -/
def cStr : Str := ['h','a','m','l','e','t','/','a','/','c','h','a','r','/','*','/','m','o','d','e','l','/','*','/','w','/','m','a']
def cSid : Sid :=
  ⟨['h','a','m','l','e','t','/','a','/','c','h','a','r','/','*','/','m','o','d','e','l','/','*','/','w','/','m','a'],
    ['a','s','s','e','t','_','_','f','i','l','e'],
    [(['p','r','o','j','e','c','t'], ['h','a','m','l','e','t']),
     (['t','y','p','e'], ['a']),
     (['a','s','s','e','t','t','y','p','e'], ['c','h','a','r']),
     (['a','s','s','e','t'], ['*']),
     (['t','a','s','k'], ['m','o','d','e','l']),
     (['v','e','r','s','i','o','n'], ['*']),
     (['s','t','a','t','e'], ['w']),
     (['e','x','t'], ['m','a'])]⟩
def cPat : Str := ['/','R','/','d','a','t','a','/','t','e','s','t','i','n','g','/','S','P','I','L','_','P','R','O','J','E','C','T','S','/','L','O','C','A','L','/','P','R','O','J','E','C','T','S','/','H','A','M','L','E','T','/','P','R','O','D','/','A','S','S','E','T','S','/','c','h','a','r','/','*','/','m','o','d','e','l','/','*','/','c','h','a','r','_','*','_','m','o','d','e','l','_','W','O','R','K','_','*','.','m','a']
/-- "hamlet/a/char/x_model_WORK/model/v001/p/ma": state `p` (PUBLISH), asset name "x_model_WORK" -/
def xSid : Sid :=
  ⟨['h','a','m','l','e','t','/','a','/','c','h','a','r','/','x','_','m','o','d','e','l','_','W','O','R','K','/','m','o','d','e','l','/','v','0','0','1','/','p','/','m','a'],
    ['a','s','s','e','t','_','_','f','i','l','e'],
    [(['p','r','o','j','e','c','t'], ['h','a','m','l','e','t']),
     (['t','y','p','e'], ['a']),
     (['a','s','s','e','t','t','y','p','e'], ['c','h','a','r']),
     (['a','s','s','e','t'], ['x','_','m','o','d','e','l','_','W','O','R','K']),
     (['t','a','s','k'], ['m','o','d','e','l']),
     (['v','e','r','s','i','o','n'], ['v','0','0','1']),
     (['s','t','a','t','e'], ['p']),
     (['e','x','t'], ['m','a'])]⟩
def xPath : Str := ['/','R','/','d','a','t','a','/','t','e','s','t','i','n','g','/','S','P','I','L','_','P','R','O','J','E','C','T','S','/','L','O','C','A','L','/','P','R','O','J','E','C','T','S','/','H','A','M','L','E','T','/','P','R','O','D','/','A','S','S','E','T','S','/','c','h','a','r','/','x','_','m','o','d','e','l','_','W','O','R','K','/','m','o','d','e','l','/','v','0','0','1','/','c','h','a','r','_','x','_','m','o','d','e','l','_','W','O','R','K','_','m','o','d','e','l','_','P','U','B','L','I','S','H','_','v','0','0','1','.','m','a']

def w1 : World := ⟨[(xPath, .file), (p1, .file)], []⟩

/-- REGRESSION WITNESS of D25.  Before the repair the path search for "…/char/*/model/*/w/ma"
    returned `[xSid, e1]`: the file name pattern `char_*_model_WORK_*.ma` matches the file
    `char_x_model_WORK_model_PUBLISH_v001.ma` of the PUBLISHED entity
    "hamlet/a/char/x_model_WORK/model/v001/p/ma" (the `*` of the version swallows
    "model_PUBLISH_v001").  The path pattern STILL globs that path (`xPath ∈ w1.glob cPat`), the
    entity exists, round-trips and is well typed, the search Sid does not glob it (state `w` ≠
    `p`), the list search over the same two entities does not return it — and the repaired path
    search no longer returns it either. -/
theorem c11_sound_regression :
    demoCtx.sidOfString cStr = .ok cSid ∧
    demoCtx.sidPath none cSid = .ok (some cPat) ∧
    demoCtx.sidOfPath xPath none = .ok xSid ∧
    demoCtx.sidOfString xSid.string = .ok xSid ∧
    xPath ∈ w1.glob cPat ∧
    ¬ SidGlob cSid xSid ∧
    Find.starSearch demoEnv ⟨[xSid.string, e1.string], false⟩ [cSid.string] = .ok [e1.string] ∧
    demoD.pathsStarSids w1 none [cSid] = .ok [e1] := by
  have hpat : demoCtx.sidPath none cSid = .ok (some cPat) := okIs_eq _ _ (by decide +kernel)
  have hx : demoCtx.sidOfPath xPath none = .ok xSid := okIs_eq _ _ (by decide +kernel)
  have hglob : w1.glob cPat = [xPath, p1] := by decide +kernel
  exact ⟨okIs_eq _ _ (by decide +kernel), hpat, hx, okIs_eq _ _ (by decide +kernel),
    hglob ▸ List.mem_cons_self, by decide +kernel, okIs_eq _ _ (by decide +kernel),
    (pathsStarSids_of_table demoD w1 none cSid cPat hpat [xPath, p1] hglob
      [(xPath, xSid), (p1, e1)] (by simp [demoD, hx, ex_rt1]) (by decide)).trans
      (okIs_eq _ _ (by decide +kernel))⟩

/-- soundness instantiated on that world: whatever is returned is globbed by the search string -/
theorem ex_sound : ∀ x ∈ [e1], x.typed = true ∧ x.type = cSid.type ∧ Glob cSid.string x.string ∧
    ∃ p, w1.pathExists p = true ∧ demoCtx.sidOfPath p none = .ok x ∧
      demoCtx.sidPath none x = .ok (some p) := by
  obtain ⟨_, _, _, _, _, _, _, heval⟩ := c11_sound_regression
  exact C11.c11_sound demoD w1 none cSid [e1] (by decide +kernel) heval

/-! ### (5) FindInPaths = FindInList, local = server -/

theorem ex_holds : C11.HoldsExactly demoD w2 none sSid.type [e1, e2] :=
  .of_table _ _ _ _ _ [(p1, e1), (pJunk, Sid.empty), (p2, e2)] rfl
    (by simp [demoD, ex_rt1, ex_junk, ex_rt2])
    (by
      intro e he
      simp only [List.mem_cons, List.not_mem_nil, or_false] at he
      rcases he with rfl | rfl
      · exact ⟨ex_wt_1, by decide, ex_vals1', _, .head _, rfl, by decide +kernel⟩
      · exact ⟨ex_wt_2, by decide, ex_vals2, _, .tail _ (.tail _ (.head _)), rfl, by decide +kernel⟩)
    (by decide)

/-- `c11_paths_eq_list_whole` instantiated on the demo world, every hypothesis discharged -/
theorem ex_paths_eq_list :
    ∃ found r, Find.starSearch demoEnv ⟨[e1, e2].map (·.string), false⟩ [sSid.string] = .ok found ∧
      demoD.pathsStarSids w2 none [sSid] = .ok r ∧ found.Nodup ∧ r.Nodup ∧
      ∀ x, x ∈ r ↔ (x ∈ [e1, e2] ∧ x.type = sSid.type ∧ x.string ∈ found) :=
  C11.c11_paths_eq_list_whole demoD w2 none sSid sPat [e1, e2] ex_pat ex_wt_s ex_whole ex_nobracket_s
    ex_nobracket demo_fix ex_holds

/-- the same entities in the `server` configuration -/
def srv : Option Str := some ['s','e','r','v','e','r']
def sPatS : Str := ['/','R','/','d','a','t','a','/','t','e','s','t','i','n','g','/','S','P','I','L','_','P','R','O','J','E','C','T','S','/','S','E','R','V','E','R','/','P','R','O','J','E','C','T','S','/','H','A','M','L','E','T','/','P','R','O','D','/','A','S','S','E','T','S','/','*','/','*','/','m','o','d','e','l','/','*','/','*','_','*','_','m','o','d','e','l','_','W','O','R','K','_','*','.','m','a']
def p1S : Str := ['/','R','/','d','a','t','a','/','t','e','s','t','i','n','g','/','S','P','I','L','_','P','R','O','J','E','C','T','S','/','S','E','R','V','E','R','/','P','R','O','J','E','C','T','S','/','H','A','M','L','E','T','/','P','R','O','D','/','A','S','S','E','T','S','/','c','h','a','r','/','o','p','h','e','l','i','a','/','m','o','d','e','l','/','v','0','0','1','/','c','h','a','r','_','o','p','h','e','l','i','a','_','m','o','d','e','l','_','W','O','R','K','_','v','0','0','1','.','m','a']
def p2S : Str := ['/','R','/','d','a','t','a','/','t','e','s','t','i','n','g','/','S','P','I','L','_','P','R','O','J','E','C','T','S','/','S','E','R','V','E','R','/','P','R','O','J','E','C','T','S','/','H','A','M','L','E','T','/','P','R','O','D','/','A','S','S','E','T','S','/','p','r','o','p','/','s','k','u','l','l','/','m','o','d','e','l','/','v','0','0','2','/','p','r','o','p','_','s','k','u','l','l','_','m','o','d','e','l','_','W','O','R','K','_','v','0','0','2','.','m','a']
def pJunkS : Str := ['/','R','/','d','a','t','a','/','t','e','s','t','i','n','g','/','S','P','I','L','_','P','R','O','J','E','C','T','S','/','S','E','R','V','E','R','/','P','R','O','J','E','C','T','S','/','H','A','M','L','E','T','/','P','R','O','D','/','r','e','a','d','m','e','.','t','x','t']
def w2S : World := ⟨[(p2S, .file), (pJunkS, .file), (p1S, .file)], []⟩

theorem ex_pcS : demoCtx.cfg.pathConf? srv = some demoPath_server := rfl
theorem ex_patS : demoCtx.sidPath srv sSid = .ok (some sPatS) := okIs_eq _ _ (by decide +kernel)
theorem ex_rt1S : demoCtx.sidOfPath p1S srv = .ok e1 := okIs_eq _ _ (by decide +kernel)
theorem ex_rt2S : demoCtx.sidOfPath p2S srv = .ok e2 := okIs_eq _ _ (by decide +kernel)
theorem ex_junkS : demoCtx.sidOfPath pJunkS srv = .ok Sid.empty := okIs_eq _ _ (by decide +kernel)

theorem demo_fixS (pc : PathConf) (h : demoCtx.cfg.pathConf? srv = some pc) : starFixed pc = true := by
  cases ex_pcS.symm.trans h
  exact ex_starFixed.2

theorem ex_holdsS : C11.HoldsExactly demoD w2S srv sSid.type [e1, e2] :=
  .of_table _ _ _ _ _ [(p2S, e2), (pJunkS, Sid.empty), (p1S, e1)] rfl
    (by simp [demoD, ex_rt2S, ex_junkS, ex_rt1S])
    (by
      intro e he
      simp only [List.mem_cons, List.not_mem_nil, or_false] at he
      rcases he with rfl | rfl
      · exact ⟨ex_wt_1, by decide, by decide +kernel, _, .tail _ (.tail _ (.head _)), rfl, by decide +kernel⟩
      · exact ⟨ex_wt_2, by decide, by decide +kernel, _, .head _, rfl, by decide +kernel⟩)
    (by decide)

/-- LOCAL = SERVER instantiated: the local tree and the server tree (different roots, different
    order, different junk) answer the search with the same set of Sids -/
theorem ex_local_eq_server :
    ∃ r1 r2, demoD.pathsStarSids w2 none [sSid] = .ok r1 ∧ demoD.pathsStarSids w2S srv [sSid] = .ok r2 ∧
      r1.Nodup ∧ r2.Nodup ∧ (∀ x, x ∈ r1 ↔ x ∈ r2) ∧ r1.Perm r2 :=
  C11.c11_local_eq_server demoD w2 w2S none srv sSid sPat sPatS [e1, e2] ex_pat ex_patS ex_wt_s
    ex_whole ex_nobracket_s ex_nobracket (by decide +kernel) demo_fix demo_fixS ex_holds ex_holdsS

/-- by evaluation: the server tree lists the skull first, so the two answers differ in order -/
theorem ex_evalS : demoD.pathsStarSids w2S srv [sSid] = .ok [e2, e1] :=
  (pathsStarSids_of_table demoD w2S srv sSid sPatS ex_patS [p2S, p1S] (by decide +kernel)
    [(p2S, e2), (p1S, e1)] (by simp [demoD, ex_rt2S, ex_rt1S]) (by decide)).trans
    (okIs_eq _ _ (by decide +kernel))

/-! ### the hypotheses of `c11_pattern_matches` are needed -/

/-- one path template "/r/{a}/{b}" of type `t`, with a value mapping for the key `a` -/
def miniCtx (m : List (Str × Str)) : Ctx :=
  { cfg := { sid := { sep := ['_','_'], searchSymbols := [['*']], templates := [], keyTypes := [], leafKeys := [],
                      extensionAlias := [], basetypedNarrowing := [], typedNarrowing := [] }
             paths := [{ name := ['l'],
                         templates := [(['t'], [.lit ['/','r','/'], .ph ['a'] (Re.star Cls.notSlash), .lit ['/'],
                                                .ph ['b'] (Re.star Cls.notSlash)])],
                         mapping := if m.isEmpty then [] else [(['a'], m)], defaults := [], searchMapping := [] }]
             defaultPath := ['l'], dataSuffix := [] }
    env := { isDigit := fun _ => false } }

def oneFile (p : Str) : World := ⟨[(p, .file)], []⟩

/-- without `starFixed`: the mapping sends the sid value `*` to the path value `STAR`; the pattern
    "/r/STAR/x" contains no star and misses the entity's path "/r/foo/x" -/
theorem c11_starFixed_needed :
    let c := miniCtx [(['S','T','A','R'], ['*'])]
    let s : Sid := ⟨['*','/','x'], ['t'], [(['a'], ['*']), (['b'], ['x'])]⟩
    let e : Sid := ⟨['f','o','o','/','x'], ['t'], [(['a'], ['f','o','o']), (['b'], ['x'])]⟩
    c.sidPath none s = .ok (some ['/','r','/','S','T','A','R','/','x']) ∧ c.sidPath none e = .ok (some ['/','r','/','f','o','o','/','x']) ∧
    SidGlob s e ∧ entityValsOk c none e = true ∧
    (c.cfg.paths.all starFixed) = false ∧
    ['/','r','/','f','o','o','/','x'] ∉ (oneFile ['/','r','/','f','o','o','/','x']).glob ['/','r','/','S','T','A','R','/','x'] :=
  ⟨okIs_eq _ _ (by decide +kernel), okIs_eq _ _ (by decide +kernel), by decide +kernel, by decide +kernel,
   by decide +kernel, by decide +kernel⟩

/-- without non-empty values: the entity's empty component is dropped by `PurePosixPath`
    ("/r//x" becomes "/r/x"), the pattern "/r/*/x" has one component more -/
theorem c11_empty_value_needed :
    let c := miniCtx []
    let s : Sid := ⟨['*','/','x'], ['t'], [(['a'], ['*']), (['b'], ['x'])]⟩
    let e : Sid := ⟨['/','x'], ['t'], [(['a'], []), (['b'], ['x'])]⟩
    c.sidPath none s = .ok (some ['/','r','/','*','/','x']) ∧ c.sidPath none e = .ok (some ['/','r','/','x']) ∧
    SidGlob s e ∧ entityValsOk c none e = false ∧
    ['/','r','/','x'] ∉ (oneFile ['/','r','/','x']).glob ['/','r','/','*','/','x'] :=
  ⟨okIs_eq _ _ (by decide +kernel), okIs_eq _ _ (by decide +kernel), by decide +kernel, by decide +kernel,
   by decide +kernel⟩

/-- without the hidden-name condition: `*` never matches a name that starts with '.' -/
theorem c11_hidden_value_needed :
    let c := miniCtx []
    let s : Sid := ⟨['*','/','x'], ['t'], [(['a'], ['*']), (['b'], ['x'])]⟩
    let e : Sid := ⟨['.','h','/','x'], ['t'], [(['a'], ['.','h']), (['b'], ['x'])]⟩
    c.sidPath none s = .ok (some ['/','r','/','*','/','x']) ∧ c.sidPath none e = .ok (some ['/','r','/','.','h','/','x']) ∧
    SidGlob s e ∧ entityValsOk c none e = false ∧
    ['/','r','/','.','h','/','x'] ∉ (oneFile ['/','r','/','.','h','/','x']).glob ['/','r','/','*','/','x'] :=
  ⟨okIs_eq _ _ (by decide +kernel), okIs_eq _ _ (by decide +kernel), by decide +kernel, by decide +kernel,
   by decide +kernel⟩

/-- with a `[` in the pattern (known finding K2): the literal value "[x" is read as an unterminated
    character class, outside the model: the model's `compMatch` refuses it -/
theorem c11_bracket_needed :
    let c := miniCtx []
    let s : Sid := ⟨['*','/','[','x'], ['t'], [(['a'], ['*']), (['b'], ['[','x'])]⟩
    let e : Sid := ⟨['f','o','o','/','[','x'], ['t'], [(['a'], ['f','o','o']), (['b'], ['[','x'])]⟩
    c.sidPath none s = .ok (some ['/','r','/','*','/','[','x']) ∧ c.sidPath none e = .ok (some ['/','r','/','f','o','o','/','[','x']) ∧
    SidGlob s e ∧ entityValsOk c none e = true ∧
    ['/','r','/','f','o','o','/','[','x'] ∉ (oneFile ['/','r','/','f','o','o','/','[','x']).glob ['/','r','/','*','/','[','x'] :=
  ⟨okIs_eq _ _ (by decide +kernel), okIs_eq _ _ (by decide +kernel), by decide +kernel, by decide +kernel,
   by decide +kernel⟩

/-! ### the repaired memo defect (D26): regression witness -/

/-- sid template `t` = "{a}/{b}", path template "/r/{a}/{b}", value mapping `a`: X ↦ x -/
def mapCtx : Ctx :=
  { cfg := { sid := { sep := ['_','_'], searchSymbols := [['*']],
                      templates := [(['t'], [.ph ['a'] (Re.star Cls.notSlash), .lit ['/'],
                                             .ph ['b'] (Re.star Cls.notSlash)])],
                      keyTypes := [(['t'], [['a'], ['b']])], leafKeys := [],
                      extensionAlias := [], basetypedNarrowing := [], typedNarrowing := [] }
             paths := [{ name := ['l'],
                         templates := [(['t'], [.lit ['/','r','/'], .ph ['a'] (Re.star Cls.notSlash), .lit ['/'],
                                                .ph ['b'] (Re.star Cls.notSlash)])],
                         mapping := [(['a'], [(['X'], ['x'])])], defaults := [], searchMapping := [] }]
             defaultPath := ['l'], dataSuffix := [] }
    env := { isDigit := fun _ => false } }

def mapD : DCtx := ⟨mapCtx, ⟨[.paths none], [], some 0, [], true⟩⟩

/-- REGRESSION WITNESS of D26.  The typed searches "X/*" and "x/*" render the SAME pattern
    "/r/X/*" (the reverse mapping sends `x` to `X` and leaves `X` alone) but have different
    strings.  While the `searched` memo of `star_search_simple` was keyed by (type, pattern) only,
    the pair was globbed once, for "X/*", whose string does not match the found Sid "x/foo", and
    the second search was skipped as "already searched": `[X/*, x/*]` found nothing although
    `[x/*]` alone finds "x/foo".  With the memo keyed by (type, pattern, str(search)) the entity
    is found again, and `c11_star_list` needs no condition relating the searches to each other. -/
theorem c11_sameStr_regression :
    let s1 : Sid := ⟨['X','/','*'], ['t'], [(['a'], ['X']), (['b'], ['*'])]⟩
    let s2 : Sid := ⟨['x','/','*'], ['t'], [(['a'], ['x']), (['b'], ['*'])]⟩
    let x : Sid := ⟨['x','/','f','o','o'], ['t'], [(['a'], ['x']), (['b'], ['f','o','o'])]⟩
    let w := oneFile ['/','r','/','X','/','f','o','o']
    mapCtx.sidOfString s1.string = .ok s1 ∧ mapCtx.sidOfString s2.string = .ok s2 ∧
    mapCtx.sidPath none s1 = .ok (some ['/','r','/','X','/','*']) ∧ mapCtx.sidPath none s2 = .ok (some ['/','r','/','X','/','*']) ∧
    mapCtx.sidOfPath ['/','r','/','X','/','f','o','o'] none = .ok x ∧
    mapD.pathsStarSids w none [s2] = .ok [x] ∧
    mapD.pathsStarSids w none [s1, s2] = .ok [x] :=
  ⟨okIs_eq _ _ (by decide +kernel), okIs_eq _ _ (by decide +kernel), okIs_eq _ _ (by decide +kernel),
   okIs_eq _ _ (by decide +kernel), okIs_eq _ _ (by decide +kernel), okIs_eq _ _ (by decide +kernel),
   okIs_eq _ _ (by decide +kernel)⟩

/-! ### path-level facts behind the defect D25, instantiated -/

/-- the path template of `asset__file` in the shipped `local` configuration -/
def assetFileTpl : Template := (demoPath_local.resolver.lookup cSid.type).getD []

/-- `asset`, `task`, `version` occupy a whole directory component; `state` and `ext` only occur
    inside the file name — which is where soundness fails -/
theorem ex_pinned :
    pinned ['a','s','s','e','t'] assetFileTpl = true ∧ pinned ['t','a','s','k'] assetFileTpl = true ∧
    pinned ['v','e','r','s','i','o','n'] assetFileTpl = true ∧
    pinned ['s','t','a','t','e'] assetFileTpl = false ∧ pinned ['e','x','t'] assetFileTpl = false := by
  decide +kernel

/-- the rendered pattern globs the path of the state-`p` entity as a whole string: the path test
    alone cannot tell it apart -/
theorem ex_sound_whole : Glob cPat xPath := by
  obtain ⟨_, _, _, _, hglob, _⟩ := c11_sound_regression
  exact (glob_of_mem_glob w1 cPat xPath hglob).2

/-- `c11_sound_pinned_partial` on the regression world: for the pinned key `task` the
    Sid's path value is globbed by (here: equals) the search's path value -/
theorem ex_sound_pinned :
    ∃ vs vx, (Ctx.pathData demoPath_local cSid.fields (Template.keys assetFileTpl)).get ['t','a','s','k'] = some vs ∧
      (Ctx.pathData demoPath_local xSid.fields (Template.keys assetFileTpl)).get ['t','a','s','k'] = some vx ∧
      Glob vs vx :=
  C11.c11_sound_pinned_partial demoPath_local assetFileTpl ['t','a','s','k'] cSid xSid cPat xPath
    (by decide +kernel) (by decide +kernel) (by decide +kernel) (by decide +kernel) (by decide +kernel)
    ex_sound_whole

end C11Ex
