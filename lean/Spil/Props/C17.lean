/-
  Spil.Props.C17 — "An interrupted attribute write leaves the old or the new data, never a ruin",
  for EVERY old content, new content and crash point, and every codec satisfying the two laws.
-/
import Spil.Model.Crash
import Spil.Lemmas.Crash

namespace C17

open Crash

/-- after any prefix of the effects of the repaired write, the sidecar holds exactly the old bytes
    or exactly the new bytes -/
theorem c17_atomic (f : Files) (new : Bytes) (k : Nat) :
    (crashAfter f (writeEffects new) k).target = f.target ∨
    (crashAfter f (writeEffects new) k).target = some new :=
  crashAfter_write_target f new k

/-- a write that runs to completion installs the new bytes and leaves no temporary file -/
theorem c17_complete (f : Files) (new : Bytes) :
    crashAfter f (writeEffects new) (writeEffects new).length = { target := some new, tmp := none } :=
  crashAfter_write_full f new

/-- reading after a crash returns the complete previous data or the complete new data -/
theorem c17_read {D} [Inhabited D] (c : Codec D) (f : Files) (d : D) (k : Nat) :
    readData c (crashAfter f (writeEffects (c.encode d)) k) = readData c f ∨
    readData c (crashAfter f (writeEffects (c.encode d)) k) = d := by
  rcases crashAfter_write_target f (c.encode d) k with h | h
  · left; simp only [readData, h]
  · right; simp [readData, h, c.dec_enc]

/-- a leftover temporary file never influences a later write -/
theorem c17_tmp_harmless {D} [Inhabited D] (c : Codec D) (overlay : D → D → D) (f : Files) (t : Option Bytes)
    (attrs : D) : setData c overlay { f with tmp := t } attrs = setData c overlay f attrs := by
  rw [setData_eq, setData_eq]; rfl

/-- the next `set` after a crash succeeds and stores the overlay of what a read returns:
    if the sidecar was absent or valid before the interrupted write, then after a crash at ANY
    point a further `set attrs₂` succeeds, and reading it back gives
    `overlay (what was readable after the crash) attrs₂` -/
theorem c17_next_ok {D} [Inhabited D] (c : Codec D) (overlay : D → D → D) (f : Files)
    (hvalid : f.target = none ∨ ∃ d₀, f.target = some (c.encode d₀))
    (attrs₁ attrs₂ : D) (k : Nat) (new : Bytes) (hnew : mergedBytes c overlay f attrs₁ = some new) :
    let crashed := crashAfter f (writeEffects new) k
    ∃ f', setData c overlay crashed attrs₂ = some f' ∧
      (crashed.target = none → readData c f' = attrs₂) ∧
      (crashed.target ≠ none → readData c f' = overlay (readData c crashed) attrs₂) := by
  intro crashed
  apply setData_valid
  rcases crashAfter_write_target f new k with h | h
  · rw [h]
    rcases hvalid with h0 | ⟨d₀, h0⟩
    · left; exact h0
    · right; exact ⟨d₀, h0⟩
  · right
    rcases hvalid with h0 | ⟨d₀, h0⟩
    · simp only [mergedBytes, h0, Option.some.injEq] at hnew
      exact ⟨attrs₁, by rw [h, hnew]⟩
    · simp only [mergedBytes, h0, c.dec_enc, Option.map_some, Option.some.injEq] at hnew
      exact ⟨overlay d₀ attrs₁, by rw [h, hnew]⟩

/-- regression witness (defect D19): with the original in-place protocol there is a crash point
    after which the data is neither old nor new — it does not decode at all — and the next `set`
    fails -/
theorem c17_inplace_breaks {D} [Inhabited D] (c : Codec D) (overlay : D → D → D) (f : Files) (d attrs : D)
    (hne : 0 < (c.encode d).length) :
    ∃ k, let crashed := crashAfter f (inplaceEffects (c.encode d)) k
      (∃ b, crashed.target = some b ∧ c.decode b = none) ∧ setData c overlay crashed attrs = none := by
  have hd : c.decode [] = none := by
    have := c.prefix_bad d 0 hne
    simpa using this
  refine ⟨1, ?_⟩
  have hc : crashAfter f (inplaceEffects (c.encode d)) 1 = { f with target := some [] } := by
    simp [crashAfter, inplaceEffects, applyEff]
  simp only [hc]
  refine ⟨⟨[], rfl, hd⟩, ?_⟩
  rw [setData_eq]
  simp [mergedBytes, hd]

/-- the hypotheses are satisfiable: a toy codec with both laws (byte values shifted by one, zero terminated) -/
def toyCodec : Codec (List Nat) := by
  exact { encode := toyEnc, decode := toyDec, dec_enc := toyDec_enc, prefix_bad := toyDec_prefix }

end C17
