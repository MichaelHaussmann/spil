/-
  Spil.Props.C09bExamples — non-vacuity of C09b on the SHIPPED configuration: a list and a tree
  with the v001/v002 model files of two characters (plus a prop and a junk file), the search
  `hamlet/a/char/*/model/>/w/ma`, every hypothesis of the theorems discharged by the kernel, the
  theorems instantiated and the answers evaluated.
-/
import Spil.Props.C09b
import Spil.Props.C11bExamples

namespace C09Ex

open Spec Generated GlobL C11Ex

/-- "hamlet/a/char/ophelia/model/v001/w/ma": the Sid `C11Ex.e1`, and `o1P` is its file `C11Ex.p1` -/
def o1 : Sid :=
  ⟨['h','a','m','l','e','t','/','a','/','c','h','a','r','/','o','p','h','e','l','i','a','/','m','o','d','e','l','/','v','0','0','1','/','w','/','m','a'],
    ['a','s','s','e','t','_','_','f','i','l','e'],
    [(['p','r','o','j','e','c','t'], ['h','a','m','l','e','t']),
     (['t','y','p','e'], ['a']),
     (['a','s','s','e','t','t','y','p','e'], ['c','h','a','r']),
     (['a','s','s','e','t'], ['o','p','h','e','l','i','a']),
     (['t','a','s','k'], ['m','o','d','e','l']),
     (['v','e','r','s','i','o','n'], ['v','0','0','1']),
     (['s','t','a','t','e'], ['w']),
     (['e','x','t'], ['m','a'])]⟩
def o1P : Str := ['/','R','/','d','a','t','a','/','t','e','s','t','i','n','g','/','S','P','I','L','_','P','R','O','J','E','C','T','S','/','L','O','C','A','L','/','P','R','O','J','E','C','T','S','/','H','A','M','L','E','T','/','P','R','O','D','/','A','S','S','E','T','S','/','c','h','a','r','/','o','p','h','e','l','i','a','/','m','o','d','e','l','/','v','0','0','1','/','c','h','a','r','_','o','p','h','e','l','i','a','_','m','o','d','e','l','_','W','O','R','K','_','v','0','0','1','.','m','a']
/-- "hamlet/a/char/ophelia/model/v002/w/ma" -/
def o2 : Sid :=
  ⟨['h','a','m','l','e','t','/','a','/','c','h','a','r','/','o','p','h','e','l','i','a','/','m','o','d','e','l','/','v','0','0','2','/','w','/','m','a'],
    ['a','s','s','e','t','_','_','f','i','l','e'],
    [(['p','r','o','j','e','c','t'], ['h','a','m','l','e','t']),
     (['t','y','p','e'], ['a']),
     (['a','s','s','e','t','t','y','p','e'], ['c','h','a','r']),
     (['a','s','s','e','t'], ['o','p','h','e','l','i','a']),
     (['t','a','s','k'], ['m','o','d','e','l']),
     (['v','e','r','s','i','o','n'], ['v','0','0','2']),
     (['s','t','a','t','e'], ['w']),
     (['e','x','t'], ['m','a'])]⟩
def o2P : Str := ['/','R','/','d','a','t','a','/','t','e','s','t','i','n','g','/','S','P','I','L','_','P','R','O','J','E','C','T','S','/','L','O','C','A','L','/','P','R','O','J','E','C','T','S','/','H','A','M','L','E','T','/','P','R','O','D','/','A','S','S','E','T','S','/','c','h','a','r','/','o','p','h','e','l','i','a','/','m','o','d','e','l','/','v','0','0','2','/','c','h','a','r','_','o','p','h','e','l','i','a','_','m','o','d','e','l','_','W','O','R','K','_','v','0','0','2','.','m','a']
/-- "hamlet/a/char/polonius/model/v001/w/ma" -/
def q1 : Sid :=
  ⟨['h','a','m','l','e','t','/','a','/','c','h','a','r','/','p','o','l','o','n','i','u','s','/','m','o','d','e','l','/','v','0','0','1','/','w','/','m','a'],
    ['a','s','s','e','t','_','_','f','i','l','e'],
    [(['p','r','o','j','e','c','t'], ['h','a','m','l','e','t']),
     (['t','y','p','e'], ['a']),
     (['a','s','s','e','t','t','y','p','e'], ['c','h','a','r']),
     (['a','s','s','e','t'], ['p','o','l','o','n','i','u','s']),
     (['t','a','s','k'], ['m','o','d','e','l']),
     (['v','e','r','s','i','o','n'], ['v','0','0','1']),
     (['s','t','a','t','e'], ['w']),
     (['e','x','t'], ['m','a'])]⟩
def q1P : Str := ['/','R','/','d','a','t','a','/','t','e','s','t','i','n','g','/','S','P','I','L','_','P','R','O','J','E','C','T','S','/','L','O','C','A','L','/','P','R','O','J','E','C','T','S','/','H','A','M','L','E','T','/','P','R','O','D','/','A','S','S','E','T','S','/','c','h','a','r','/','p','o','l','o','n','i','u','s','/','m','o','d','e','l','/','v','0','0','1','/','c','h','a','r','_','p','o','l','o','n','i','u','s','_','m','o','d','e','l','_','W','O','R','K','_','v','0','0','1','.','m','a']
/-- "hamlet/a/char/polonius/model/v002/w/ma" -/
def q2 : Sid :=
  ⟨['h','a','m','l','e','t','/','a','/','c','h','a','r','/','p','o','l','o','n','i','u','s','/','m','o','d','e','l','/','v','0','0','2','/','w','/','m','a'],
    ['a','s','s','e','t','_','_','f','i','l','e'],
    [(['p','r','o','j','e','c','t'], ['h','a','m','l','e','t']),
     (['t','y','p','e'], ['a']),
     (['a','s','s','e','t','t','y','p','e'], ['c','h','a','r']),
     (['a','s','s','e','t'], ['p','o','l','o','n','i','u','s']),
     (['t','a','s','k'], ['m','o','d','e','l']),
     (['v','e','r','s','i','o','n'], ['v','0','0','2']),
     (['s','t','a','t','e'], ['w']),
     (['e','x','t'], ['m','a'])]⟩
def q2P : Str := ['/','R','/','d','a','t','a','/','t','e','s','t','i','n','g','/','S','P','I','L','_','P','R','O','J','E','C','T','S','/','L','O','C','A','L','/','P','R','O','J','E','C','T','S','/','H','A','M','L','E','T','/','P','R','O','D','/','A','S','S','E','T','S','/','c','h','a','r','/','p','o','l','o','n','i','u','s','/','m','o','d','e','l','/','v','0','0','2','/','c','h','a','r','_','p','o','l','o','n','i','u','s','_','m','o','d','e','l','_','W','O','R','K','_','v','0','0','2','.','m','a']
/-- "hamlet/a/prop/skull/model/v003/w/ma" -/
def k3 : Sid :=
  ⟨['h','a','m','l','e','t','/','a','/','p','r','o','p','/','s','k','u','l','l','/','m','o','d','e','l','/','v','0','0','3','/','w','/','m','a'],
    ['a','s','s','e','t','_','_','f','i','l','e'],
    [(['p','r','o','j','e','c','t'], ['h','a','m','l','e','t']),
     (['t','y','p','e'], ['a']),
     (['a','s','s','e','t','t','y','p','e'], ['p','r','o','p']),
     (['a','s','s','e','t'], ['s','k','u','l','l']),
     (['t','a','s','k'], ['m','o','d','e','l']),
     (['v','e','r','s','i','o','n'], ['v','0','0','3']),
     (['s','t','a','t','e'], ['w']),
     (['e','x','t'], ['m','a'])]⟩
def k3P : Str := ['/','R','/','d','a','t','a','/','t','e','s','t','i','n','g','/','S','P','I','L','_','P','R','O','J','E','C','T','S','/','L','O','C','A','L','/','P','R','O','J','E','C','T','S','/','H','A','M','L','E','T','/','P','R','O','D','/','A','S','S','E','T','S','/','p','r','o','p','/','s','k','u','l','l','/','m','o','d','e','l','/','v','0','0','3','/','p','r','o','p','_','s','k','u','l','l','_','m','o','d','e','l','_','W','O','R','K','_','v','0','0','3','.','m','a']
/-- the search "hamlet/a/char/*/model/>/w/ma" -/
def gStr : Str := ['h','a','m','l','e','t','/','a','/','c','h','a','r','/','*','/','m','o','d','e','l','/','>','/','w','/','m','a']
/-- the typed search Sid it unfolds into -/
def gSid : Sid :=
  ⟨['h','a','m','l','e','t','/','a','/','c','h','a','r','/','*','/','m','o','d','e','l','/','>','/','w','/','m','a'],
    ['a','s','s','e','t','_','_','f','i','l','e'],
    [(['p','r','o','j','e','c','t'], ['h','a','m','l','e','t']),
     (['t','y','p','e'], ['a']),
     (['a','s','s','e','t','t','y','p','e'], ['c','h','a','r']),
     (['a','s','s','e','t'], ['*']),
     (['t','a','s','k'], ['m','o','d','e','l']),
     (['v','e','r','s','i','o','n'], ['>']),
     (['s','t','a','t','e'], ['w']),
     (['e','x','t'], ['m','a'])]⟩
/-- `o1.get_with(version='>')`: "hamlet/a/char/ophelia/model/>/w/ma" -/
def lSid : Sid :=
  ⟨['h','a','m','l','e','t','/','a','/','c','h','a','r','/','o','p','h','e','l','i','a','/','m','o','d','e','l','/','>','/','w','/','m','a'],
    ['a','s','s','e','t','_','_','f','i','l','e'],
    [(['p','r','o','j','e','c','t'], ['h','a','m','l','e','t']),
     (['t','y','p','e'], ['a']),
     (['a','s','s','e','t','t','y','p','e'], ['c','h','a','r']),
     (['a','s','s','e','t'], ['o','p','h','e','l','i','a']),
     (['t','a','s','k'], ['m','o','d','e','l']),
     (['v','e','r','s','i','o','n'], ['>']),
     (['s','t','a','t','e'], ['w']),
     (['e','x','t'], ['m','a'])]⟩
/-- its '>' ↦ '*' reading "hamlet/a/char/ophelia/model/*/w/ma" and the glob pattern of that -/
def lStar : Sid :=
  ⟨['h','a','m','l','e','t','/','a','/','c','h','a','r','/','o','p','h','e','l','i','a','/','m','o','d','e','l','/','*','/','w','/','m','a'],
    ['a','s','s','e','t','_','_','f','i','l','e'],
    [(['p','r','o','j','e','c','t'], ['h','a','m','l','e','t']),
     (['t','y','p','e'], ['a']),
     (['a','s','s','e','t','t','y','p','e'], ['c','h','a','r']),
     (['a','s','s','e','t'], ['o','p','h','e','l','i','a']),
     (['t','a','s','k'], ['m','o','d','e','l']),
     (['v','e','r','s','i','o','n'], ['*']),
     (['s','t','a','t','e'], ['w']),
     (['e','x','t'], ['m','a'])]⟩
def lPat : Str := ['/','R','/','d','a','t','a','/','t','e','s','t','i','n','g','/','S','P','I','L','_','P','R','O','J','E','C','T','S','/','L','O','C','A','L','/','P','R','O','J','E','C','T','S','/','H','A','M','L','E','T','/','P','R','O','D','/','A','S','S','E','T','S','/','c','h','a','r','/','o','p','h','e','l','i','a','/','m','o','d','e','l','/','*','/','c','h','a','r','_','o','p','h','e','l','i','a','_','m','o','d','e','l','_','W','O','R','K','_','*','.','m','a']
/-- "version", the string of `C18.vkey` -/
def kVersion : Str := ['v','e','r','s','i','o','n']
/-- a file that conforms to no template -/
def junkP : Str := ['/','R','/','d','a','t','a','/','t','e','s','t','i','n','g','/','S','P','I','L','_','P','R','O','J','E','C','T','S','/','L','O','C','A','L','/','P','R','O','J','E','C','T','S','/','H','A','M','L','E','T','/','P','R','O','D','/','A','S','S','E','T','S','/','c','h','a','r','/','o','p','h','e','l','i','a','/','m','o','d','e','l','/','v','0','0','2','/','n','o','t','e','s','.','t','x','t']
/-- "…/v9/…" and "…/v10/…": list entries need not be valid Sids -/
def n9 : Str := ['h','a','m','l','e','t','/','a','/','c','h','a','r','/','o','p','h','e','l','i','a','/','m','o','d','e','l','/','v','9','/','w','/','m','a']
def n10 : Str := ['h','a','m','l','e','t','/','a','/','c','h','a','r','/','o','p','h','e','l','i','a','/','m','o','d','e','l','/','v','1','0','/','w','/','m','a']

/-! ### the search and its unfolding -/

theorem ex_searches : demoCtx.findSearches gStr = .ok [gSid] := okIs_eq _ _ (by decide +kernel)

theorem ex_gtAt : GtAt 5 gSid.string := by decide +kernel

theorem ex_nb : ∀ s ∈ [gSid], '[' ∉ s.string := by decide +kernel

/-- the re-resolution hypothesis of `c09_list` from `c09_strOfUri`: `Sid(uri)` answers (here with
    `cSid`), the rest is about characters -/
theorem ex_hres' : demoCtx.strOfUri (gtStar gSid.uri) = .ok (gtStar gSid.string) :=
  C09.c09_strOfUri demoCtx gSid (by decide +kernel) (by decide +kernel) (by decide +kernel)
    ⟨cSid, okIs_eq _ _ (by decide +kernel)⟩

theorem ex_hres : ∀ s ∈ [gSid], demoCtx.strOfUri (gtStar s.uri) = .ok (gtStar s.string) := by
  intro s hs
  cases List.mem_singleton.1 hs
  exact ex_hres'

/-! ### (1) the list Finder -/

/-- v001 and v002 of two characters, v003 of a prop, in no particular order -/
def L : List Str := [o1.string, q2.string, k3.string, o2.string, q1.string]

/-- `c09_find_in_list` instantiated, every hypothesis discharged -/
theorem ex_list : ∃ r, demoCtx.findInList ⟨L, false⟩ gStr = .ok r ∧
    PicksLast 5 (ListMatch L [gSid]) r :=
  C09.c09_find_in_list demoCtx L gStr gSid [] 5 ex_searches ex_gtAt ex_nb ex_hres

/-- by evaluation of `do_find` on the typed search: the v002 file of each character (the prop is
    not matched) -/
theorem ex_list_glob : demoCtx.doFindGlob (Find.starSearch demoEnv ⟨L, false⟩) [gSid] =
    .ok [q2.string, o2.string] := okIs_eq _ _ (by decide +kernel)

theorem ex_list_eval : demoCtx.findInList ⟨L, false⟩ gStr = .ok [q2.string, o2.string] :=
  (Ctx.findInList_of_searches demoCtx ⟨L, false⟩ gStr [gSid] ex_searches).trans ex_list_glob

/-- hence, from the THEOREM: both are the last of their group among the matching entries, and
    the v001 file is not -/
theorem ex_list_last : IsLastOf 5 (ListMatch L [gSid]) o2.string ∧
    IsLastOf 5 (ListMatch L [gSid]) q2.string ∧ ¬ IsLastOf 5 (ListMatch L [gSid]) o1.string := by
  obtain ⟨r, hr, hp⟩ := ex_list
  rw [ex_list_eval] at hr
  injection hr with hr
  subst hr
  refine ⟨(hp.mem _).1 (by simp), (hp.mem _).1 (by simp), fun h => ?_⟩
  have := (hp.mem _).2 h
  revert this
  decide +kernel

/-- "compared segment by segment AS STRINGS": of v9 and v10 the last one is v9 -/
theorem ex_string_order : demoCtx.findInList ⟨[n10, n9], false⟩ lSid.string = .ok [n9] :=
  okIs_eq _ _ (by decide +kernel)

/-! ### (2) the path Finder -/

def w4 : World :=
  ⟨[(o1P, .file), (q2P, .file), (junkP, .file), (k3P, .file), (o2P, .file), (q1P, .file)], []⟩

/-- the search re-resolved with '>' ↦ '*' is `C11Ex.cSid` ("hamlet/a/char/*/model/*/w/ma") -/
theorem ex_resolve : Ctx.mapE (fun x => demoD.resolveSearch (gtStar x.uri)) [gSid] = .ok [cSid] :=
  okIs_eq _ _ (by decide +kernel)

theorem ex_cpat : demoCtx.sidPath none cSid = .ok (some cPat) := by
  obtain ⟨_, hpat, _⟩ := c11_sound_regression
  exact hpat

/-- `c09_find_in_paths` instantiated, every hypothesis discharged -/
theorem ex_paths : ∃ r, demoD.findInPaths w4 none gStr = .ok r ∧
    PicksLast 5 (PathMatch demoD w4 none [cSid]) r :=
  C09.c09_find_in_paths demoD w4 none gStr gSid [] 5 ex_searches ex_gtAt [cSid] ex_resolve
    (List.forall_mem_singleton.2 (Or.inl ⟨cPat, ex_cpat⟩))
    (by decide +kernel) (fun p _ => demo_total p)

/-! ### (3) Finder independence -/

def ents4 : List Sid := [o1, q2, k3, o2, q1]

theorem ex_rt_o1 : demoCtx.sidOfPath o1P none = .ok o1 := ex_rt1
theorem ex_rt_o2 : demoCtx.sidOfPath o2P none = .ok o2 := okIs_eq _ _ (by decide +kernel)
theorem ex_rt_q1 : demoCtx.sidOfPath q1P none = .ok q1 := okIs_eq _ _ (by decide +kernel)
theorem ex_rt_q2 : demoCtx.sidOfPath q2P none = .ok q2 := okIs_eq _ _ (by decide +kernel)
theorem ex_rt_k3 : demoCtx.sidOfPath k3P none = .ok k3 := okIs_eq _ _ (by decide +kernel)
theorem ex_rt_junk : demoCtx.sidOfPath junkP none = .ok Sid.empty := okIs_eq _ _ (by decide +kernel)

theorem ex_holds4 : C11.HoldsExactly demoD w4 none cSid.type ents4 :=
  .of_table _ _ _ _ _ [(o1P, o1), (q2P, q2), (junkP, Sid.empty), (k3P, k3), (o2P, o2), (q1P, q1)] rfl
    (by simp [demoD, ex_rt_o1, ex_rt_q2, ex_rt_junk, ex_rt_k3, ex_rt_o2, ex_rt_q1])
    (by
      intro e he
      simp only [ents4, List.mem_cons, List.not_mem_nil, or_false] at he
      rcases he with rfl | rfl | rfl | rfl | rfl <;>
        exact ⟨wellTyped_of_B _ _ _ (by decide +kernel), by decide, by decide +kernel, by decide +kernel⟩)
    (by decide)

theorem ex_starOk : C09.StarOk demoD w4 none ents4 cSid :=
  ⟨⟨cPat, ex_cpat, by decide +kernel⟩, wellTyped_of_B _ _ _ (by decide +kernel),
    by decide +kernel, by decide +kernel, ex_holds4⟩

/-- `c09_finder_independent` instantiated: FindInPaths over the tree and FindInList over the
    strings of the entities return the same list -/
theorem ex_independent : ∃ r, demoD.pathsDoFind w4 none [gSid] = .ok r ∧
    demoCtx.doFindGlob (Find.starSearch demoEnv ⟨GtL.entStrings [cSid] ents4, false⟩) [gSid] = .ok r ∧
    PicksLast 5 (PathMatch demoD w4 none [cSid]) r ∧
    PicksLast 5 (fun y => y ∈ GtL.entStrings [cSid] ents4 ∧ ∃ s' ∈ [cSid], Glob s'.string y) r :=
  C09.c09_finder_independent demoD w4 none gSid [] 5 ex_gtAt [cSid] ents4 ex_resolve
    (C09.starOk_single _ _ _ _ _ ex_starOk).1 (fun p _ => demo_total p) demo_fix
    (C09.starOk_single _ _ _ _ _ ex_starOk).2

theorem ex_entStrings : GtL.entStrings [cSid] ents4 = L := by decide +kernel

/-- hence the path Finder's answer on the tree is the list Finder's answer on `L`, which was evaluated -/
theorem ex_paths_eval : demoD.findInPaths w4 none gStr = .ok [q2.string, o2.string] := by
  obtain ⟨r, hp, hl, _⟩ := ex_independent
  rw [ex_entStrings] at hl
  rw [AllL.findInPaths_of_searches demoD w4 none gStr [gSid] ex_searches, hp, ← ex_list_glob.symm.trans hl]

/-! ### (4) `get_last` -/

theorem ex_getWith : demoCtx.getWithKw o1 [(lastKey o1 (some kVersion), some ['>'])] = .ok lSid :=
  okIs_eq _ _ (by decide +kernel)
theorem ex_unfold : demoCtx.unfoldSearch lSid.string false false = .ok [lSid] :=
  okIs_eq _ _ (by decide +kernel)
theorem ex_resolve_l : Ctx.mapE (fun x => demoD.resolveSearch (gtStar x.uri)) [lSid] = .ok [lStar] :=
  okIs_eq _ _ (by decide +kernel)
theorem ex_lpat : demoCtx.sidPath none lStar = .ok (some lPat) := okIs_eq _ _ (by decide +kernel)

/-- `c09_get_last` instantiated for `o1.get_last('version')` on the demo data configuration, where
    every search is routed to the default Finder `FindInPaths()`; for ANY tree `w` -/
theorem ex_get_last (w : World) : ∃ r, demoD.pathsDoFind w none [lSid] = .ok r ∧
    PicksLast 5 (PathMatch demoD w none [lStar]) r ∧
    demoD.getLast w o1 (some kVersion) = lastAnswer demoCtx (lastKey o1 (some kVersion)) r.head? ∧
    (r = [] ↔ ¬ ∃ y, PathMatch demoD w none [lStar] y) ∧
    ∀ y, r.head? = some y → PathMatch demoD w none [lStar] y ∧
      ∀ z, PathMatch demoD w none [lStar] z → segGe y z :=
  -- `sk` = `s0` = `lSid`, no further search; Finder 0 of `demoD` is `FindInPaths(None)`; '>' is segment 5
  C09.c09_get_last demoD w o1 (some kVersion) lSid lSid [] 0 none 5 (by decide) ex_getWith ex_unfold
    (by decide +kernel) rfl (by decide +kernel) [lStar] ex_resolve_l
    (List.forall_mem_singleton.2 (Or.inl ⟨lPat, ex_lpat⟩))
    (by decide +kernel) (fun p _ => demo_total p)

/-- `get_last` from the evaluated answer of the path Finder, on any tree -/
theorem ex_get_last_of (w : World) (y : Str) (h : demoD.pathsDoFind w none [lSid] = .ok [y]) :
    demoD.getLast w o1 (some kVersion) = lastAnswer demoCtx (lastKey o1 (some kVersion)) (some y) := by
  obtain ⟨r, hr, _, hg, _⟩ := ex_get_last w
  cases hr.symm.trans h
  exact hg

/-- everything before '>' is literal: the answer of that search has at most one element -/
theorem ex_single : ∀ r, PicksLast 5 (PathMatch demoD w4 none [lStar]) r → r.length ≤ 1 := by
  intro r hr
  exact C09.c09_single_answer 5 [lStar] ((Str.splitOn '/' lStar.string).take 5) _ r hr
    (C09.c09_pathMatch_glob demoD w4 none [lStar])
    (List.forall_mem_singleton.2 rfl)
    (by decide +kernel)

/-- the path Finder's answer: by finder independence on the tree of (3) it is the list Finder's
    answer over the entity strings, which is evaluated -/
theorem ex_last_paths_eval : demoD.pathsDoFind w4 none [lSid] = .ok [o2.string] := by
  have hok : C09.StarOk demoD w4 none ents4 lStar :=
    ⟨⟨lPat, ex_lpat, by decide +kernel⟩, wellTyped_of_B _ _ _ (by decide +kernel),
      by decide +kernel, by decide +kernel, ex_holds4⟩
  obtain ⟨r, hp, hl, _⟩ := C09.c09_finder_independent demoD w4 none lSid [] 5 (by decide +kernel)
    [lStar] ents4 ex_resolve_l (C09.starOk_single _ _ _ _ _ hok).1 (fun p _ => demo_total p) demo_fix
    (C09.starOk_single _ _ _ _ _ hok).2
  have hL : demoCtx.doFindGlob (Find.starSearch demoEnv ⟨GtL.entStrings [lStar] ents4, false⟩) [lSid] =
      .ok [o2.string] := okIs_eq _ _ (by decide +kernel)
  rw [hp, ← hL.symm.trans hl]

/-- hence, from the THEOREM (`FindInAll` is a mutual recursion the kernel does not evaluate):
    the last version of the ophelia model is v002 -/
theorem ex_get_last_eval : demoD.getLast w4 o1 (some kVersion) = .ok o2 :=
  (ex_get_last_of w4 _ ex_last_paths_eval).trans (okIs_eq _ _ (by decide +kernel))

def w0 : World := ⟨[(q1P, .file), (junkP, .file)], []⟩

/-- and on a tree without any ophelia model file the answer is the empty Sid -/
theorem ex_get_last_none : demoD.getLast w0 o1 (some kVersion) = .ok Sid.empty := by
  obtain ⟨r, hr, _, hg, _⟩ := ex_get_last w0
  have : demoD.pathsDoFind w0 none [lSid] = .ok [] := okIs_eq _ _ (by decide +kernel)
  rw [this] at hr
  have hr' : [] = r := Except.ok.inj hr
  subst hr'
  rw [hg, List.head?_nil, lastAnswer]

/-! ### an expression that unfolds into SEVERAL typed searches, one of a type without path -/

/-- "hamlet/s/sq010/sh0010/anim/v001/w/ma" (shot__file) -/
def a1 : Sid :=
  ⟨['h','a','m','l','e','t','/','s','/','s','q','0','1','0','/','s','h','0','0','1','0','/','a','n','i','m','/','v','0','0','1','/','w','/','m','a'],
    ['s','h','o','t','_','_','f','i','l','e'],
    [(['p','r','o','j','e','c','t'], ['h','a','m','l','e','t']),
     (['t','y','p','e'], ['s']),
     (['s','e','q','u','e','n','c','e'], ['s','q','0','1','0']),
     (['s','h','o','t'], ['s','h','0','0','1','0']),
     (['t','a','s','k'], ['a','n','i','m']),
     (['v','e','r','s','i','o','n'], ['v','0','0','1']),
     (['s','t','a','t','e'], ['w']),
     (['e','x','t'], ['m','a'])]⟩
def a1P : Str := ['/','R','/','d','a','t','a','/','t','e','s','t','i','n','g','/','S','P','I','L','_','P','R','O','J','E','C','T','S','/','L','O','C','A','L','/','P','R','O','J','E','C','T','S','/','H','A','M','L','E','T','/','P','R','O','D','/','S','H','O','T','S','/','s','q','0','1','0','/','s','q','0','1','0','_','s','h','0','0','1','0','/','a','n','i','m','/','v','0','0','1','/','s','q','0','1','0','_','s','h','0','0','1','0','_','a','n','i','m','_','W','O','R','K','_','v','0','0','1','.','m','a']
/-- "hamlet/s/sq010/sh0010/anim/v002/w/ma" (shot__file) -/
def a2 : Sid :=
  ⟨['h','a','m','l','e','t','/','s','/','s','q','0','1','0','/','s','h','0','0','1','0','/','a','n','i','m','/','v','0','0','2','/','w','/','m','a'],
    ['s','h','o','t','_','_','f','i','l','e'],
    [(['p','r','o','j','e','c','t'], ['h','a','m','l','e','t']),
     (['t','y','p','e'], ['s']),
     (['s','e','q','u','e','n','c','e'], ['s','q','0','1','0']),
     (['s','h','o','t'], ['s','h','0','0','1','0']),
     (['t','a','s','k'], ['a','n','i','m']),
     (['v','e','r','s','i','o','n'], ['v','0','0','2']),
     (['s','t','a','t','e'], ['w']),
     (['e','x','t'], ['m','a'])]⟩
def a2P : Str := ['/','R','/','d','a','t','a','/','t','e','s','t','i','n','g','/','S','P','I','L','_','P','R','O','J','E','C','T','S','/','L','O','C','A','L','/','P','R','O','J','E','C','T','S','/','H','A','M','L','E','T','/','P','R','O','D','/','S','H','O','T','S','/','s','q','0','1','0','/','s','q','0','1','0','_','s','h','0','0','1','0','/','a','n','i','m','/','v','0','0','2','/','s','q','0','1','0','_','s','h','0','0','1','0','_','a','n','i','m','_','W','O','R','K','_','v','0','0','2','.','m','a']
/-- "hamlet/s/sq010/sh0020/anim/v001/w/ma" (shot__file) -/
def b1 : Sid :=
  ⟨['h','a','m','l','e','t','/','s','/','s','q','0','1','0','/','s','h','0','0','2','0','/','a','n','i','m','/','v','0','0','1','/','w','/','m','a'],
    ['s','h','o','t','_','_','f','i','l','e'],
    [(['p','r','o','j','e','c','t'], ['h','a','m','l','e','t']),
     (['t','y','p','e'], ['s']),
     (['s','e','q','u','e','n','c','e'], ['s','q','0','1','0']),
     (['s','h','o','t'], ['s','h','0','0','2','0']),
     (['t','a','s','k'], ['a','n','i','m']),
     (['v','e','r','s','i','o','n'], ['v','0','0','1']),
     (['s','t','a','t','e'], ['w']),
     (['e','x','t'], ['m','a'])]⟩
def b1P : Str := ['/','R','/','d','a','t','a','/','t','e','s','t','i','n','g','/','S','P','I','L','_','P','R','O','J','E','C','T','S','/','L','O','C','A','L','/','P','R','O','J','E','C','T','S','/','H','A','M','L','E','T','/','P','R','O','D','/','S','H','O','T','S','/','s','q','0','1','0','/','s','q','0','1','0','_','s','h','0','0','2','0','/','a','n','i','m','/','v','0','0','1','/','s','q','0','1','0','_','s','h','0','0','2','0','_','a','n','i','m','_','W','O','R','K','_','v','0','0','1','.','m','a']
/-- the search "hamlet/s/*/*/*/>/w/ma": it unfolds into TWO typed searches with the same string -/
def hStr : Str := ['h','a','m','l','e','t','/','s','/','*','/','*','/','*','/','>','/','w','/','m','a']
def hNode : Sid :=
  ⟨['h','a','m','l','e','t','/','s','/','*','/','*','/','*','/','>','/','w','/','m','a'],
    ['s','h','o','t','_','_','c','a','c','h','e','_','n','o','d','e'],
    [(['p','r','o','j','e','c','t'], ['h','a','m','l','e','t']),
     (['t','y','p','e'], ['s']),
     (['s','e','q','u','e','n','c','e'], ['*']),
     (['s','h','o','t'], ['*']),
     (['t','a','s','k'], ['*']),
     (['v','e','r','s','i','o','n'], ['>']),
     (['s','t','a','t','e'], ['w']),
     (['n','o','d','e'], ['m','a'])]⟩
def hFile : Sid :=
  ⟨['h','a','m','l','e','t','/','s','/','*','/','*','/','*','/','>','/','w','/','m','a'],
    ['s','h','o','t','_','_','f','i','l','e'],
    [(['p','r','o','j','e','c','t'], ['h','a','m','l','e','t']),
     (['t','y','p','e'], ['s']),
     (['s','e','q','u','e','n','c','e'], ['*']),
     (['s','h','o','t'], ['*']),
     (['t','a','s','k'], ['*']),
     (['v','e','r','s','i','o','n'], ['>']),
     (['s','t','a','t','e'], ['w']),
     (['e','x','t'], ['m','a'])]⟩
/-- their '>' ↦ '*' readings "hamlet/s/*/*/*/*/w/ma" -/
def hNodeS : Sid :=
  ⟨['h','a','m','l','e','t','/','s','/','*','/','*','/','*','/','*','/','w','/','m','a'],
    ['s','h','o','t','_','_','c','a','c','h','e','_','n','o','d','e'],
    [(['p','r','o','j','e','c','t'], ['h','a','m','l','e','t']),
     (['t','y','p','e'], ['s']),
     (['s','e','q','u','e','n','c','e'], ['*']),
     (['s','h','o','t'], ['*']),
     (['t','a','s','k'], ['*']),
     (['v','e','r','s','i','o','n'], ['*']),
     (['s','t','a','t','e'], ['w']),
     (['n','o','d','e'], ['m','a'])]⟩
def hFileS : Sid :=
  ⟨['h','a','m','l','e','t','/','s','/','*','/','*','/','*','/','*','/','w','/','m','a'],
    ['s','h','o','t','_','_','f','i','l','e'],
    [(['p','r','o','j','e','c','t'], ['h','a','m','l','e','t']),
     (['t','y','p','e'], ['s']),
     (['s','e','q','u','e','n','c','e'], ['*']),
     (['s','h','o','t'], ['*']),
     (['t','a','s','k'], ['*']),
     (['v','e','r','s','i','o','n'], ['*']),
     (['s','t','a','t','e'], ['w']),
     (['e','x','t'], ['m','a'])]⟩
def hPat : Str := ['/','R','/','d','a','t','a','/','t','e','s','t','i','n','g','/','S','P','I','L','_','P','R','O','J','E','C','T','S','/','L','O','C','A','L','/','P','R','O','J','E','C','T','S','/','H','A','M','L','E','T','/','P','R','O','D','/','S','H','O','T','S','/','*','/','*','_','*','/','*','/','*','/','*','_','*','_','*','_','W','O','R','K','_','*','.','m','a']
/-- a hand-made pair of typed searches with DIFFERENT strings: "hamlet/s/*/*/*/>/w/mb" as shot__file … -/
def kFile : Sid :=
  ⟨['h','a','m','l','e','t','/','s','/','*','/','*','/','*','/','>','/','w','/','m','b'],
    ['s','h','o','t','_','_','f','i','l','e'],
    [(['p','r','o','j','e','c','t'], ['h','a','m','l','e','t']),
     (['t','y','p','e'], ['s']),
     (['s','e','q','u','e','n','c','e'], ['*']),
     (['s','h','o','t'], ['*']),
     (['t','a','s','k'], ['*']),
     (['v','e','r','s','i','o','n'], ['>']),
     (['s','t','a','t','e'], ['w']),
     (['e','x','t'], ['m','b'])]⟩
def kFileS : Sid :=
  ⟨['h','a','m','l','e','t','/','s','/','*','/','*','/','*','/','*','/','w','/','m','b'],
    ['s','h','o','t','_','_','f','i','l','e'],
    [(['p','r','o','j','e','c','t'], ['h','a','m','l','e','t']),
     (['t','y','p','e'], ['s']),
     (['s','e','q','u','e','n','c','e'], ['*']),
     (['s','h','o','t'], ['*']),
     (['t','a','s','k'], ['*']),
     (['v','e','r','s','i','o','n'], ['*']),
     (['s','t','a','t','e'], ['w']),
     (['e','x','t'], ['m','b'])]⟩

theorem ex2_searches : demoCtx.findSearches hStr = .ok [hNode, hFile] := okIs_eq _ _ (by decide +kernel)
theorem ex2_gtAt : GtAt 5 hNode.string := by decide +kernel
theorem ex2_resolve :
    Ctx.mapE (fun x => demoD.resolveSearch (gtStar x.uri)) [hNode, hFile] = .ok [hNodeS, hFileS] :=
  okIs_eq _ _ (by decide +kernel)
/-- `shot__cache_node` has no path template: `sid.path()` is `None` -/
theorem ex2_nopath : demoCtx.sidPath none hNodeS = .ok none := okIs_eq _ _ (by decide +kernel)
theorem ex2_pat : demoCtx.sidPath none hFileS = .ok (some hPat) := okIs_eq _ _ (by decide +kernel)

def w3 : World := ⟨[(a2P, .file), (b1P, .file), (o1P, .file), (a1P, .file)], []⟩
def ents3 : List Sid := [a2, b1, o1, a1]
/-- the shot files and (not matched) a character file -/
def L3 : List Str := [a2.string, b1.string, o1.string, a1.string]

theorem ex2_hres : ∀ s ∈ [hNode, hFile], demoCtx.strOfUri (gtStar s.uri) = .ok (gtStar s.string) := by
  intro s hs
  simp only [List.mem_cons, List.not_mem_nil, or_false] at hs
  rcases hs with rfl | rfl
  · exact okIs_eq _ _ (by decide +kernel)
  · exact okIs_eq _ _ (by decide +kernel)

/-- (1) for two typed searches -/
theorem ex2_list : ∃ r, demoCtx.findInList ⟨L3, false⟩ hStr = .ok r ∧
    PicksLast 5 (ListMatch L3 [hNode, hFile]) r :=
  C09.c09_find_in_list demoCtx L3 hStr hNode [hFile] 5 ex2_searches ex2_gtAt (by decide +kernel) ex2_hres

theorem ex2_list_eval : demoCtx.findInList ⟨L3, false⟩ hStr = .ok [b1.string, a2.string] :=
  (Ctx.findInList_of_searches demoCtx ⟨L3, false⟩ hStr [hNode, hFile] ex2_searches).trans
    (okIs_eq _ _ (by decide +kernel))

theorem ex2_hasPattern : ∀ s' ∈ [hNodeS, hFileS], HasPattern demoD w3 none s' := by
  intro s' hs'
  simp only [List.mem_cons, List.not_mem_nil, or_false] at hs'
  rcases hs' with rfl | rfl
  · exact Or.inr ⟨ex2_nopath, by decide +kernel⟩
  · exact Or.inl ⟨hPat, ex2_pat⟩

/-- (2) for two typed searches, the first of a type without path template -/
theorem ex2_paths : ∃ r, demoD.findInPaths w3 none hStr = .ok r ∧
    PicksLast 5 (PathMatch demoD w3 none [hNodeS, hFileS]) r :=
  C09.c09_find_in_paths demoD w3 none hStr hNode [hFile] 5 ex2_searches ex2_gtAt [hNodeS, hFileS]
    ex2_resolve ex2_hasPattern (by decide +kernel) (fun p _ => demo_total p)

theorem ex_rt_a1 : demoCtx.sidOfPath a1P none = .ok a1 := okIs_eq _ _ (by decide +kernel)
theorem ex_rt_a2 : demoCtx.sidOfPath a2P none = .ok a2 := okIs_eq _ _ (by decide +kernel)
theorem ex_rt_b1 : demoCtx.sidOfPath b1P none = .ok b1 := okIs_eq _ _ (by decide +kernel)

theorem ex2_holds : C11.HoldsExactly demoD w3 none hFileS.type ents3 :=
  .of_table _ _ _ _ _ [(a2P, a2), (b1P, b1), (o1P, o1), (a1P, a1)] rfl
    (by simp [demoD, ex_rt_a2, ex_rt_b1, ex_rt_o1, ex_rt_a1])
    (by
      intro e he
      simp only [ents3, List.mem_cons, List.not_mem_nil, or_false] at he
      rcases he with rfl | rfl | rfl | rfl <;>
        exact ⟨wellTyped_of_B _ _ _ (by decide +kernel), by decide, by decide +kernel, by decide +kernel⟩)
    (by decide)

theorem ex2_ok : ∀ s' ∈ [hNodeS, hFileS],
    C09.StarOk demoD w3 none ents3 s' ∨ C09.NoPath demoD w3 none ents3 s' := by
  intro s' hs'
  simp only [List.mem_cons, List.not_mem_nil, or_false] at hs'
  rcases hs' with rfl | rfl
  · exact Or.inr ⟨ex2_nopath, by decide +kernel, by decide +kernel, by decide +kernel⟩
  · exact Or.inl ⟨⟨hPat, ex2_pat, by decide +kernel⟩, wellTyped_of_B _ _ _ (by decide +kernel),
      by decide +kernel, by decide +kernel, ex2_holds⟩

/-- (3) for two typed searches: the two star searches have the same string, so `TypesAgree` -/
theorem ex2_independent : ∃ r, demoD.pathsDoFind w3 none [hNode, hFile] = .ok r ∧
    demoCtx.doFindGlob (Find.starSearch demoEnv ⟨GtL.entStrings [hNodeS, hFileS] ents3, false⟩)
      [hNode, hFile] = .ok r ∧
    PicksLast 5 (PathMatch demoD w3 none [hNodeS, hFileS]) r ∧
    PicksLast 5 (fun y => y ∈ GtL.entStrings [hNodeS, hFileS] ents3 ∧
      ∃ s' ∈ [hNodeS, hFileS], Glob s'.string y) r :=
  C09.c09_finder_independent demoD w3 none hNode [hFile] 5 ex2_gtAt [hNodeS, hFileS] ents3 ex2_resolve
    ex2_ok (fun p _ => demo_total p) demo_fix
    (C09.typesAgree_of_same_string _ _ (by decide +kernel))

/-- the character file is left out -/
theorem ex2_entStrings : GtL.entStrings [hNodeS, hFileS] ents3 = [a2.string, b1.string, a1.string] := by
  decide +kernel

/-- hence the path Finder's answer on the tree is what the list Finder answers on those three strings -/
theorem ex2_paths_eval : demoD.findInPaths w3 none hStr = .ok [b1.string, a2.string] := by
  obtain ⟨r, hp, hl, _⟩ := ex2_independent
  rw [ex2_entStrings] at hl
  have hL : demoCtx.doFindGlob (Find.starSearch demoEnv ⟨[a2.string, b1.string, a1.string], false⟩)
      [hNode, hFile] = .ok [b1.string, a2.string] := okIs_eq _ _ (by decide +kernel)
  rw [AllL.findInPaths_of_searches demoD w3 none hStr [hNode, hFile] ex2_searches, hp, ← hL.symm.trans hl]

/-! ### `TypesAgree` is needed (known finding K6, on the shipped configuration) -/

/-- the typed searches `shot__file:hamlet/s/*/*/*/>/w/mb` and `shot__cache_node:hamlet/s/*/*/*/>/w/ma`
    (different strings).  The entity `a1` ("…/v001/w/ma") is a `shot__file`: the list Finder over
    the entities of the searched types returns it — the string of the `shot__cache_node` search
    matches it, and a list Finder does not look at types — while the path Finder finds nothing:
    no `shot__file` search matches it.  `TypesAgree` fails for exactly that entity. -/
theorem c09_typesAgree_needed :
    demoCtx.sidOfString kFile.uri = .ok kFile ∧ demoCtx.sidOfString hNode.uri = .ok hNode ∧
    Ctx.mapE (fun x => demoD.resolveSearch (gtStar x.uri)) [kFile, hNode] = .ok [kFileS, hNodeS] ∧
    GtL.entStrings [kFileS, hNodeS] ents3 = [a2.string, b1.string, a1.string] ∧
    demoD.pathsDoFind w3 none [kFile, hNode] = .ok [] ∧
    demoCtx.doFindGlob (Find.starSearch demoEnv ⟨GtL.entStrings [kFileS, hNodeS] ents3, false⟩)
      [kFile, hNode] = .ok [b1.string, a2.string] ∧
    ¬ C09.TypesAgree [kFileS, hNodeS] ents3 := by
  refine ⟨okIs_eq _ _ (by decide +kernel), okIs_eq _ _ (by decide +kernel),
    okIs_eq _ _ (by decide +kernel), by decide +kernel, okIs_eq _ _ (by decide +kernel),
    okIs_eq _ _ (by decide +kernel), fun h => ?_⟩
  have hg : Glob hNodeS.string a1.string :=
    (C08.c08_glob2re demoEnv _ _ (by decide +kernel)).1 (by decide +kernel)
  obtain ⟨t, ht, h1, h2⟩ := h a1 (by simp [ents3]) hNodeS (by simp) hg ⟨kFileS, by simp, by decide⟩
  simp only [List.mem_cons, List.not_mem_nil, or_false] at ht
  rcases ht with rfl | rfl
  · have := (C08.c08_glob2re demoEnv _ _ (by decide +kernel)).2 h2
    revert this
    decide +kernel
  · revert h1
    decide

/-! ### outside the premise: not every unfolded form carries '>' -/

/-- "hamlet/a/char/ophelia/model/*,>/w/ma": a list of alternatives mixing `*` and `>` -/
def mStr : Str := ['h','a','m','l','e','t','/','a','/','c','h','a','r','/','o','p','h','e','l','i','a','/','m','o','d','e','l','/','*',',','>','/','w','/','m','a']

/-- it unfolds into the `*` search FIRST (sorted by string, '*' < '>') and the '>' search; some
    search contains '>', the first one does not: `segments.index('>')` raises ValueError
    (`c09_gt_not_segment`), for the list Finder -/
theorem ex_mixed_raises : demoCtx.findSearches mStr = .ok [lStar, lSid] ∧
    demoCtx.findInList ⟨L, false⟩ mStr = .error .value := by
  have h : demoCtx.findSearches mStr = .ok [lStar, lSid] := okIs_eq _ _ (by decide +kernel)
  exact ⟨h, (Ctx.findInList_of_searches _ _ _ _ h).trans
    (C09.c09_gt_not_segment demoCtx _ lStar [lSid] (by decide +kernel) (by decide +kernel))⟩

end C09Ex
