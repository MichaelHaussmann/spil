/-
  Spil.Props.C18b — the version WORKFLOW of C18: `get_new` is the successor of the greatest existing
  version, it is greater than every existing version of its group (so it "does not exist yet"), and
  publishing `get_new` repeatedly yields strictly increasing, never reused, gap-free versions.
  The statement for ANY number of publishes is made on the abstract version store `Workflow`, tied to
  the model by `c18_step_refines`.
-/
import Spil.Props.C18
import Spil.Props.C09b

namespace C18

open Spec

/-! ### (1) get_new from get_last -/

/-- `get_new('version')` on a Sid that has a version: when `get_last` answers a typed Sid whose
    version is the rendering of `n`, `get_new` is that Sid with the version `n + 1` -/
theorem c18_new_succ (d : DCtx) (w : World) (x l : Sid) (v : Str) (n : Nat) (hn : n < 1000)
    (hx : x.fields.get vkey = some v) (hv : v ≠ [])
    (hl : d.getLast w x (some vkey) = .ok l) (hlt : l.typed = true)
    (hlv : l.fields.get vkey = some (fmtV n)) :
    d.getNew w x = d.ctx.getWithKw l [(vkey, some (fmtV (n + 1)))] := by
  rw [c18_new d w x l v hx hv hl, hlt]
  simp only [if_true]
  exact c18_next_concrete d w l n hn hlv

/-- … and when nothing exists yet (`get_last` answers the empty Sid) and the Sid's own version is the
    rendering of `m`, `get_new` is its own successor (for `v001`: `v002`; the first publish of a task is
    asked on the version-less Sid, `c18_next_missing`) -/
theorem c18_new_first (d : DCtx) (w : World) (x l : Sid) (m : Nat) (hm : m < 1000)
    (hx : x.fields.get vkey = some (fmtV m))
    (hl : d.getLast w x (some vkey) = .ok l) (hlt : l.typed = false) :
    d.getNew w x = d.ctx.getWithKw x [(vkey, some (fmtV (m + 1)))] := by
  rw [c18_new d w x l (fmtV m) hx (by simp [fmtV]) hl, hlt]
  simp only [Bool.false_eq_true, if_false]
  exact c18_next_concrete d w x m hm hx

/-! ### (2) "at least every matching Sid" in version numbers -/

/-- THE LAST IS THE MAXIMUM.  `y` is at least `z` segment by segment (what `C09.c09_get_last` proves
    of the answer of `get_last` against every matching existing Sid `z`); both carry a rendered version
    at the same position after the same leading segments (same task: one group).  Then the version
    number of `z` is not greater than that of `y`. -/
theorem c18_last_is_max (y z : Str) (pre ry rz : List Str) (n m : Nat) (hn : n < 1000) (hm : m < 1000)
    (hy : Str.splitOn '/' y = pre ++ fmtV n :: ry) (hz : Str.splitOn '/' z = pre ++ fmtV m :: rz)
    (hge : segGe y z) : m ≤ n := by
  apply Nat.le_of_not_lt
  intro hlt
  have h1 : Str.lt (fmtV n) (fmtV m) = true := (c18_order n m hn hm).2 hlt
  have h2 := Str.ltList_common_prefix pre (fmtV n) (fmtV m) ry rz h1
  unfold segGe at hge
  rw [hy, hz, h2] at hge
  exact Bool.noConfusion hge

/-- THE NEW VERSION DOES NOT EXIST YET.  With `y` the answer of `get_last` (version `n`), no matching
    existing Sid `z` of the group carries the version `n + 1` that `get_new` returns. -/
theorem c18_new_fresh (y z : Str) (pre ry rz : List Str) (n m : Nat) (hn : n < 1000) (hm : m < 1000)
    (hy : Str.splitOn '/' y = pre ++ fmtV n :: ry) (hz : Str.splitOn '/' z = pre ++ fmtV m :: rz)
    (hge : segGe y z) : fmtV m ≠ fmtV (n + 1) := by
  intro h
  have hle := c18_last_is_max y z pre ry rz n m hn hm hy hz hge
  by_cases hn1 : n + 1 < 1000
  · have := c18_inj m (n + 1) hm hn1 h
    omega
  · -- n = 999: the rendering of 1000 has four digits, that of m three
    have hw := c18_pad3_wide (n + 1) (by omega)
    have h3 := (c18_pad3 m hm).1
    have : (Str.pad3 m).length = (Str.pad3 (n + 1)).length := by
      have h' : Str.pad3 m = Str.pad3 (n + 1) := by simpa [fmtV] using h
      rw [h']
    omega

/-! ### (3) the workflow, for any number of publishes -/

namespace Workflow

/-- the abstract state of one task: the version numbers that exist (any order, gaps allowed) -/
abbrev Store := List Nat

/-- the greatest existing version number, 0 when none exists (`get_last` answering the empty Sid) -/
def last : Store → Nat
  | [] => 0
  | v :: vs => max v (last vs)

/-- `get_new`: the successor of the last existing version -/
def new (s : Store) : Nat := last s + 1

/-- one publish: `create(get_new(...))` — refused (the empty Sid, nothing created) beyond the last
    representable version 999 -/
def publish (s : Store) : Store := if new s < 1000 then new s :: s else s

def publishN : Nat → Store → Store
  | 0, s => s
  | k + 1, s => publishN k (publish s)

theorem le_last (s : Store) : ∀ v ∈ s, v ≤ last s := by
  induction s with
  | nil => intro v hv; cases hv
  | cons a as ih =>
    intro v hv
    simp only [last]
    rcases List.mem_cons.1 hv with rfl | h
    · exact Nat.le_max_left _ _
    · exact Nat.le_trans (ih v h) (Nat.le_max_right _ _)

theorem last_mem (s : Store) (h : s ≠ []) : last s ∈ s := by
  induction s with
  | nil => exact absurd rfl h
  | cons a as ih =>
    simp only [last]
    by_cases has : as = []
    · subst has; simp [last]
    · have := ih has
      rcases Nat.le_total a (last as) with hle | hle
      · rw [Nat.max_eq_right hle]; exact List.mem_cons_of_mem _ this
      · rw [Nat.max_eq_left hle]; exact List.mem_cons_self

/-- NEVER REUSED: the version `get_new` names does not exist -/
theorem new_not_mem (s : Store) : new s ∉ s := by
  intro h
  have := le_last s _ h
  simp only [new] at this
  omega

theorem last_publish (s : Store) (h : last s + 1 < 1000) : last (publish s) = last s + 1 := by
  simp only [publish, new, h, if_true, last]
  omega

theorem last_publishN (k : Nat) (s : Store) (h : last s + k < 1000) :
    last (publishN k s) = last s + k := by
  induction k generalizing s with
  | zero => rfl
  | succ k ih =>
    have hl := last_publish s (by omega)
    rw [publishN, ih (publish s) (by omega), hl]
    omega

/-- after `k` publishes (while representable) the store is the old one plus the `k` successors of
    its last version, newest first: GAP-FREE, STRICTLY INCREASING, NEVER REUSED in one statement -/
theorem c18_publish_versions (k : Nat) (s : Store) (h : last s + k < 1000) :
    publishN k s = (List.range' (last s + 1) k).reverse ++ s := by
  induction k generalizing s with
  | zero => simp [publishN]
  | succ k ih =>
    have hnew : last s + 1 < 1000 := by omega
    have hl := last_publish s hnew
    simp only [publishN]
    rw [ih (publish s) (by rw [hl]; omega), hl]
    simp only [publish, new, hnew, if_true]
    rw [List.range'_succ, List.reverse_cons, List.append_assoc]
    rfl

/-- the version created by the `(k+1)`-th publish is `last s + 1 + k`: each publish creates the
    successor of the one before -/
theorem c18_publish_gapfree (k : Nat) (s : Store) (h : last s + (k + 1) < 1000) :
    new (publishN k s) = last s + 1 + k := by
  rw [new, last_publishN k s (by omega)]
  omega

/-- STRICTLY INCREASING: every publish names a version greater than the one before -/
theorem c18_publish_increasing (k : Nat) (s : Store) (h : last s + (k + 2) < 1000) :
    new (publishN k s) < new (publishN (k + 1) s) := by
  rw [c18_publish_gapfree k s (by omega), c18_publish_gapfree (k + 1) s (by omega)]
  omega

/-- NEVER REUSED over the whole history: what the `(k+1)`-th publish names exists in no earlier state -/
theorem c18_publish_fresh (k j : Nat) (s : Store) (hj : j ≤ k) (h : last s + (k + 1) < 1000) :
    new (publishN k s) ∉ publishN j s := by
  rw [c18_publish_gapfree k s h, c18_publish_versions j s (by omega)]
  intro hm
  rcases List.mem_append.1 hm with hm | hm
  · rw [List.mem_reverse, List.mem_range'_1] at hm
    omega
  · have := le_last s _ hm
    omega

/-- … and the workflow STOPS at the last representable version instead of wrapping or reusing -/
theorem c18_publish_stops (s : Store) (h : last s = 999) : publish s = s := by
  simp [publish, new, h]

end Workflow

/-- ONE REAL STEP IS ONE ABSTRACT STEP.  `s` lists the version numbers of the existing Sids of the
    task of `x` (`hl`, `hlt`, `hlv`: `get_last` answers a typed Sid with the rendering of the abstract
    last version — what `C09.c09_get_last` + `c18_last_is_max` establish on a tree).  Then the model's `get_new` is the
    `get_last` answer with the abstract `new` version. -/
theorem c18_step_refines (d : DCtx) (w : World) (x l : Sid) (v : Str) (s : Workflow.Store)
    (hne : s ≠ []) (hs : ∀ n ∈ s, n < 1000)
    (hx : x.fields.get vkey = some v) (hv : v ≠ [])
    (hl : d.getLast w x (some vkey) = .ok l) (hlt : l.typed = true)
    (hlv : l.fields.get vkey = some (fmtV (Workflow.last s))) :
    d.getNew w x = d.ctx.getWithKw l [(vkey, some (fmtV (Workflow.new s)))] :=
  c18_new_succ d w x l v (Workflow.last s) (hs _ (Workflow.last_mem s hne)) hx hv hl hlt hlv

end C18
