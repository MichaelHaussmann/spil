/-
  Spil.Props.C13b — regression witness for defect D27 (fix 643db89): a cache keyed by the Sid
  ARGUMENT is keyed by Python equality of Sids, i.e. by their uri; an UNDEFINED Sid can have the
  uri of a typed one, and `PathSid.path` does not answer the same for the two.  `c13_fresh` asks
  that the wrapped function depend on the key only: `c13_path_not_congruent` shows that the path of
  a Sid does not, `c13_path_on_sid_wrong` that the two-call history is then answered wrongly by
  the cache as it was, `c13_path_repaired_right` that it is answered rightly once the undefined case
  is decided before the cache (the repair), all on the shipped configuration: the two Sids and
  their paths by kernel evaluation, the two histories from those facts (`Cache.runHist_lru_same_key`).
-/
import Spil.Props.C13
import Spil.Props.C05c

namespace C13

open Generated Cache C05

/-- `Sid('x:asset:hamlet/a')`: there is no type `x`; undefined, keeps the string `asset:hamlet/a` -/
def xUndefined : Sid := ⟨['a','s','s','e','t',':','h','a','m','l','e','t','/','a'], [], []⟩

/-- `Sid('asset:hamlet/a')` -/
def xTyped : Sid := ⟨['h','a','m','l','e','t','/','a'], ['a','s','s','e','t'],
  [(['p','r','o','j','e','c','t'], ['h','a','m','l','e','t']), (['t','y','p','e'], ['a'])]⟩

/-- the two Sids as the factory builds them -/
theorem c13_same_uri_sids :
    demoCtx.sidOfString ['x',':','a','s','s','e','t',':','h','a','m','l','e','t','/','a'] = .ok xUndefined ∧
    demoCtx.sidOfString ['a','s','s','e','t',':','h','a','m','l','e','t','/','a'] = .ok xTyped :=
  ⟨eq_ok_of_test _ _ (by decide +kernel), eq_ok_of_test _ _ (by decide +kernel)⟩

/-- how Python compares and hashes a Sid argument: by its uri -/
def sidKey (c : Call Sid) : List Str := c.args.map Sid.uri

/-- `sid.path()` of the first argument, in the default path configuration (errors as `none`) -/
def pathOf (c : Call Sid) : Option Str :=
  match c.args.head? with
  | some x => (match demoCtx.sidPath none x with | .ok p => p | .error _ => none)
  | none => none

/-- equal keys, different Sids, different answers: the path of a Sid is NOT a function of the key
    a cache on the Sid argument uses -/
theorem c13_path_not_congruent :
    sidKey ⟨[xUndefined], []⟩ = sidKey ⟨[xTyped], []⟩ ∧ xUndefined ≠ xTyped ∧
    pathOf ⟨[xUndefined], []⟩ = none ∧ (pathOf ⟨[xTyped], []⟩).isSome = true := by
  refine ⟨by decide +kernel, by decide, by decide +kernel, by decide +kernel⟩

/-- the cache as it was (D27): the undefined Sid first, then the typed one — the second call is
    answered `None` (4096 is `caching._max_size`) -/
theorem c13_path_on_sid_wrong :
    runHist (stepLru sidKey pathOf 4096 popitem) [] [⟨[xUndefined], []⟩, ⟨[xTyped], []⟩]
      ≠ [⟨[xUndefined], []⟩, ⟨[xTyped], []⟩].map pathOf := by
  obtain ⟨hk, _, hu, ht⟩ := c13_path_not_congruent
  rw [runHist_lru_same_key sidKey pathOf 4096 popitem (by decide) _ _ hk]
  intro h
  simp only [List.map_cons, List.map_nil, List.cons.injEq, and_true, true_and] at h
  rw [← h, hu] at ht
  cases ht

/-- the repaired method: an undefined Sid is answered before the cache is consulted -/
def stepRepaired (st : Store (List Str) (Option Str)) (c : Call Sid) :
    Store (List Str) (Option Str) × Option Str :=
  match c.args.head? with
  | some x => if x.fields.isEmpty then (st, none) else stepLru sidKey pathOf 4096 popitem st c
  | none => (st, none)

theorem c13_path_repaired_right :
    runHist stepRepaired [] [⟨[xUndefined], []⟩, ⟨[xTyped], []⟩, ⟨[xUndefined], []⟩, ⟨[xTyped], []⟩]
      = [⟨[xUndefined], []⟩, ⟨[xTyped], []⟩, ⟨[xUndefined], []⟩, ⟨[xTyped], []⟩].map pathOf := by
  obtain ⟨_, _, hu, _⟩ := c13_path_not_congruent
  -- the undefined Sid never touches the store; the typed one is stored once and then found
  have hU : ∀ st, stepRepaired st ⟨[xUndefined], []⟩ = (st, none) := fun _ => rfl
  have hT0 : stepRepaired [] ⟨[xTyped], []⟩ =
      ([(sidKey ⟨[xTyped], []⟩, pathOf ⟨[xTyped], []⟩)], pathOf ⟨[xTyped], []⟩) := rfl
  have hT1 : stepRepaired [(sidKey ⟨[xTyped], []⟩, pathOf ⟨[xTyped], []⟩)] ⟨[xTyped], []⟩ =
      ([(sidKey ⟨[xTyped], []⟩, pathOf ⟨[xTyped], []⟩)], pathOf ⟨[xTyped], []⟩) := by
    simp [stepRepaired, xTyped, stepLru]
  simp only [runHist, hU, hT0, hT1, List.map_cons, List.map_nil, hu]

end C13
