/-
  Spil.Props.C09b — C09 end to end: "for a search whose unfolded forms carry '>' at one position,
  find returns exactly one Sid per distinct combination of the segments before that position among
  the entries matching the search with '>' read as '*': the one whose remaining segments are
  greatest when compared segment by segment as strings.  The answer does not depend on which
  Finder serves it, nor on how many typed searches the expression unfolds into, and
  Sid.get_last(key) is the corresponding single answer (or the empty Sid)."

  `Spil.Props.C08` (namespace C09) proves the selection `sortedPick`; this file the Finders.
  The code takes the position `idx` of '>' from the FIRST search Sid only (`hidx`); nothing below
  needs the other searches to carry '>' at the same position.
-/
import Spil.Lemmas.GtLast

namespace C09

open Spec Find GlobL

/-! ### (1) the list Finder -/

/-- the re-resolution hypothesis `hres` of `c09_list` from conditions on characters: re-resolving
    the uri of a search Sid with '>' ↦ '*' yields — whenever `Sid(...)` answers — a Sid whose
    string is the search's string with '>' ↦ '*'.  No '?' in the uri (`unfold_search` drops
    searches with an un-applied query), no ':' in the type, nor in the string when there is no
    type (a uri splits at its first ':') -/
theorem c09_strOfUri (c : Ctx) (s : Sid) (hq : '?' ∉ s.uri) (ht : ':' ∉ s.type)
    (hs : s.type.isEmpty = true → ':' ∉ s.string) (h : ∃ x, c.sidOfString (gtStar s.uri) = .ok x) :
    c.strOfUri (gtStar s.uri) = .ok (gtStar s.string) := by
  obtain ⟨x, hx⟩ := h
  unfold Ctx.strOfUri
  rw [hx]
  show Except.ok x.string = _
  rw [GtL.sidOfString_gtStar_string c s x hq ht hs hx]

/-- LIST FINDER.  `searches = s0 :: rest` are the typed search Sids `do_find` receives; the first
    carries '>' as a whole segment at position `idx` (`hidx`; hence some search contains '>').
    Hypotheses: `hb` no search string contains '[' (`glob2re` is out of model then: K2);
    `hres` re-resolving each uri with '>' ↦ '*' gives the corresponding string (`c09_strOfUri`;
    without it the star search would run on another pattern, or `Sid(...)` raises).
    Then `do_find` answers `sortedPick idx M`, `M` the star-search matches of the '>' ↦ '*'
    searches, and that answer consists of the last one of each group of `ListMatch l searches`. -/
theorem c09_list (c : Ctx) (l : List Str) (s0 : Sid) (rest : List Sid) (idx : Nat)
    (hidx : GtAt idx s0.string)
    (hb : ∀ s ∈ s0 :: rest, '[' ∉ s.string)
    (hres : ∀ s ∈ s0 :: rest, c.strOfUri (gtStar s.uri) = .ok (gtStar s.string)) :
    ∃ M, starSearch c.env ⟨l, false⟩ ((s0 :: rest).map (fun s => gtStar s.string)) = .ok M ∧
      c.doFindGlob (starSearch c.env ⟨l, false⟩) (s0 :: rest) = .ok (sortedPick idx M) ∧
      PicksLast idx (ListMatch l (s0 :: rest)) (sortedPick idx M) := by
  obtain ⟨M, h1, h2, h3⟩ := GtL.doFindGlob_list_gt c l s0 rest idx hidx _
    (Ctx.mapE_eq_map _ (fun s => gtStar s.string) _ hres)
    (List.forall_mem_map.2 fun s hs => (GtL.bracket_gtStar _).2 (hb s hs))
  refine ⟨M, h1, h2, GtL.picksLast_sortedPick idx _ M (fun x => ?_)⟩
  rw [h3, ListMatch, Lst.exists_mem_map]

/-- the same for `FindInList(l).find(search)` on a search string, through `findSearches` -/
theorem c09_find_in_list (c : Ctx) (l : List Str) (search : Str) (s0 : Sid) (rest : List Sid)
    (idx : Nat) (hs : c.findSearches search = .ok (s0 :: rest))
    (hidx : GtAt idx s0.string)
    (hb : ∀ s ∈ s0 :: rest, '[' ∉ s.string)
    (hres : ∀ s ∈ s0 :: rest, c.strOfUri (gtStar s.uri) = .ok (gtStar s.string)) :
    ∃ r, c.findInList ⟨l, false⟩ search = .ok r ∧ PicksLast idx (ListMatch l (s0 :: rest)) r := by
  obtain ⟨M, _, h2, h3⟩ := c09_list c l s0 rest idx hidx hb hres
  exact ⟨_, (Ctx.findInList_of_searches c _ search _ hs).trans h2, h3⟩

/-- premise of the property not met: some search contains the character '>' but the FIRST search
    does not carry it as a whole segment (`hamlet/a/v>`): `segments.index('>')` raises ValueError,
    whatever the string-level star search `star` (the list Finder's `do_find`; of the Sid-level
    `DCtx.doFindWith` this covers the star functions that read only the strings:
    `GtL.doFindGlob_eq_doFindWith`) -/
theorem c09_gt_not_segment (c : Ctx) (star : List Str → Except Err (List Str)) (s0 : Sid)
    (rest : List Sid) (hany : (s0 :: rest).any (fun x => Str.hasChar '>' x.string) = true)
    (hno : indexOfGt (Str.splitOn '/' s0.string) = none) :
    c.doFindGlob star (s0 :: rest) = .error .value := by
  simp only [Ctx.doFindGlob, List.isEmpty_cons, Bool.false_eq_true, if_false, hany, if_true,
    Ctx.sortedSearch, hno]

/-! ### (2) the path Finder -/

/-- the strings of the star searches the path Finder runs are the '>' ↦ '*' readings of the
    search strings (same character conditions as `c09_strOfUri`) -/
theorem c09_star_string (d : DCtx) (searches stars : List Sid)
    (hres : Ctx.mapE (fun x => d.resolveSearch (gtStar x.uri)) searches = .ok stars)
    (hch : ∀ s ∈ searches, '?' ∉ s.uri ∧ ':' ∉ s.type ∧ (s.type.isEmpty = true → ':' ∉ s.string)) :
    ∀ s' ∈ stars, ∃ s ∈ searches, d.resolveSearch (gtStar s.uri) = .ok s' ∧
      s'.string = gtStar s.string := by
  intro s' hs'
  obtain ⟨s, hs, h⟩ := (Ctx.mapE_mem _ _ _ hres s').1 hs'
  obtain ⟨h1, h2, h3⟩ := hch s hs
  exact ⟨s, hs, h, GtL.sidOfString_gtStar_string d.ctx s s' h1 h2 h3 h⟩

/-- PATH FINDER.  `stars` are the searches re-resolved with '>' ↦ '*' (`hres`: none raises).
    Hypotheses as for `C11.c11_star_one`: `hsp` every star search has a path pattern (or its
    type has no path template and nothing is globbed by "None": `HasPattern`), `hgm` no '[' in
    its string (K2), `htot` `Sid(path=…)` raises on no node (C06: `C11.c11_total_of_wf`).
    Then `do_find` answers `sortedPick idx` of the strings of the Sids the star searches return
    (`rs`, one star search per re-resolved search), and that answer consists of the last one of
    each group of `PathMatch`: the existing Sids of the searched types matched by the search. -/
theorem c09_paths (d : DCtx) (w : World) (config : Option Str) (s0 : Sid) (rest : List Sid)
    (idx : Nat) (hidx : GtAt idx s0.string) (stars : List Sid)
    (hres : Ctx.mapE (fun x => d.resolveSearch (gtStar x.uri)) (s0 :: rest) = .ok stars)
    (hsp : ∀ s' ∈ stars, HasPattern d w config s')
    (hgm : ∀ s' ∈ stars, '[' ∉ s'.string)
    (htot : ∀ p ∈ w.nodes.map (·.1), ∃ x, d.ctx.sidOfPath p config = .ok x) :
    ∃ rs, Ctx.mapE (fun s' => d.pathsStarSids w config [s']) stars = .ok rs ∧
      d.pathsDoFind w config (s0 :: rest) = .ok (sortedPick idx (rs.flatten.map (·.string))) ∧
      PicksLast idx (PathMatch d w config stars) (sortedPick idx (rs.flatten.map (·.string))) := by
  obtain ⟨rs, h1, h2, h3⟩ := GtL.pathsDoFind_gt_match d w config s0 rest idx hidx stars hres hsp hgm htot
  exact ⟨rs, h1, h2, GtL.picksLast_sortedPick idx _ _ h3⟩

/-- NOT ON THE SPLITTING: `sorted_search` runs one star search per re-resolved search; the answer
    is also the pick over what ONE star search over all of them returns (`R`), under the
    hypotheses of `C11.c11_star_list_mem` -/
theorem c09_paths_joint (d : DCtx) (w : World) (config : Option Str) (s0 : Sid) (rest : List Sid)
    (idx : Nat) (hidx : GtAt idx s0.string) (stars : List Sid)
    (hres : Ctx.mapE (fun x => d.resolveSearch (gtStar x.uri)) (s0 :: rest) = .ok stars)
    (hsp : ∀ s' ∈ stars, HasPattern d w config s')
    (hgm : ∀ s' ∈ stars, '[' ∉ s'.string)
    (htot : ∀ p ∈ w.nodes.map (·.1), ∃ x, d.ctx.sidOfPath p config = .ok x) :
    ∃ R, d.pathsStarSids w config stars = .ok R ∧
      d.pathsDoFind w config (s0 :: rest) = .ok (sortedPick idx (R.map (·.string))) := by
  have hsp' : ∀ s ∈ stars, ∃ po, d.ctx.sidPath config s = .ok po := fun s hs =>
    sidPath_ok_of_hasPattern (hsp s hs)
  obtain ⟨R, hR, _⟩ := C11.c11_star_list_mem d w config stars hsp' hgm htot
  obtain ⟨rs, hrs, h2, _⟩ := GtL.pathsDoFind_gt_match d w config s0 rest idx hidx stars hres hsp hgm htot
  refine ⟨R, hR, ?_⟩
  rw [h2]
  congr 1
  apply C09.c09_pick_set
  intro y
  have := GtL.pathsStarSids_joint d w config stars rs R hsp' hgm htot hrs hR
  simp only [List.mem_map, this]

/-- the same for `FindInPaths(config).find(search)` on a search string -/
theorem c09_find_in_paths (d : DCtx) (w : World) (config : Option Str) (search : Str) (s0 : Sid)
    (rest : List Sid) (idx : Nat) (hs : d.ctx.findSearches search = .ok (s0 :: rest))
    (hidx : GtAt idx s0.string) (stars : List Sid)
    (hres : Ctx.mapE (fun x => d.resolveSearch (gtStar x.uri)) (s0 :: rest) = .ok stars)
    (hsp : ∀ s' ∈ stars, HasPattern d w config s')
    (hgm : ∀ s' ∈ stars, '[' ∉ s'.string)
    (htot : ∀ p ∈ w.nodes.map (·.1), ∃ x, d.ctx.sidOfPath p config = .ok x) :
    ∃ r, d.findInPaths w config search = .ok r ∧ PicksLast idx (PathMatch d w config stars) r := by
  obtain ⟨rs, _, h2, h3⟩ := c09_paths d w config s0 rest idx hidx stars hres hsp hgm htot
  exact ⟨_, by simp only [DCtx.findInPaths, hs, h2], h3⟩

/-! ### (3) Finder independence -/

/-- the list Finder ignores the TYPE of a typed search (known finding K6): an entity of one
    searched type that the string of ANY star search matches is returned.  The path Finder returns
    it only if a star search OF ITS OWN TYPE matches it.  `TypesAgree` says the two coincide. -/
def TypesAgree (stars ents : List Sid) : Prop :=
  ∀ e ∈ ents, ∀ s' ∈ stars, Glob s'.string e.string → (∃ t ∈ stars, e.type = t.type) →
    ∃ t ∈ stars, e.type = t.type ∧ Glob t.string e.string

/-- it holds when all the star searches have the same string (one expression typed in several
    ways; in particular for a single search) -/
theorem typesAgree_of_same_string (stars ents : List Sid)
    (h : ∀ a ∈ stars, ∀ b ∈ stars, a.string = b.string) : TypesAgree stars ents := by
  rintro e _ s' hs' hg ⟨t, ht, hty⟩
  exact ⟨t, ht, hty, by rw [h t ht s' hs']; exact hg⟩

/-- the hypotheses `hok` and `hty` of `c09_finder_independent` when there is one star search, with
    a path template -/
theorem starOk_single (d : DCtx) (w : World) (config : Option Str) (ents : List Sid) (s : Sid)
    (h : StarOk d w config ents s) :
    (∀ s' ∈ [s], StarOk d w config ents s' ∨ NoPath d w config ents s') ∧
      TypesAgree [s] ents :=
  ⟨fun s' hs' => by cases List.mem_singleton.1 hs'; exact Or.inl h,
   typesAgree_of_same_string _ _ (fun a ha b hb => by
     rw [List.mem_singleton.1 ha, List.mem_singleton.1 hb])⟩

/-- FINDER INDEPENDENCE.  On a tree that holds exactly the entities `ents` plus junk (for every
    searched type: `StarOk`, the hypotheses of `C11.c11_paths_eq_list_whole`; or `NoPath` for a
    searched type without path template, which has no entities), FindInPaths and FindInList over
    the entities of the searched types (`GtL.entStrings`: K6) answer a '>' search with THE SAME
    LIST (same order: the selection sorts), which consists of the last one of each group of
    either reading.  (`StarOk`, `NoPath`: `Spil.Lemmas.GtPath`.) -/
theorem c09_finder_independent (d : DCtx) (w : World) (config : Option Str) (s0 : Sid)
    (rest : List Sid) (idx : Nat) (hidx : GtAt idx s0.string) (stars ents : List Sid)
    (hres : Ctx.mapE (fun x => d.resolveSearch (gtStar x.uri)) (s0 :: rest) = .ok stars)
    (hok : ∀ s' ∈ stars, StarOk d w config ents s' ∨ NoPath d w config ents s')
    (htot : ∀ p ∈ w.nodes.map (·.1), ∃ x, d.ctx.sidOfPath p config = .ok x)
    (hfix : ∀ pc, d.ctx.cfg.pathConf? config = some pc → starFixed pc = true)
    (hty : TypesAgree stars ents) :
    ∃ r, d.pathsDoFind w config (s0 :: rest) = .ok r ∧
      d.ctx.doFindGlob (starSearch d.ctx.env ⟨GtL.entStrings stars ents, false⟩) (s0 :: rest) = .ok r ∧
      PicksLast idx (PathMatch d w config stars) r ∧
      PicksLast idx (fun y => y ∈ GtL.entStrings stars ents ∧ ∃ s' ∈ stars, Glob s'.string y) r := by
  have hsp : ∀ s' ∈ stars, HasPattern d w config s' := fun s' hs' => hasPattern_of_ok (hok s' hs')
  have hgm : ∀ s' ∈ stars, '[' ∉ s'.string := fun s' hs' => nobracket_of_ok (hok s' hs')
  obtain ⟨rs, hrs, hp, hpm⟩ := GtL.pathsDoFind_gt_match d w config s0 rest idx hidx _ hres hsp hgm htot
  obtain ⟨M, _, hl, hlm⟩ := GtL.doFindGlob_list_gt d.ctx (GtL.entStrings stars ents) s0 rest idx hidx _
    (Ctx.mapE_map _ _ _ _ hres)
    (List.forall_mem_map.2 hgm)
  have hset := GtL.pathsStarSids_strings d w config stars ents rs hrs hok hfix
  have hlm' : ∀ y, y ∈ M ↔ (y ∈ GtL.entStrings stars ents ∧ ∃ s' ∈ stars, Glob s'.string y) :=
    fun y => by rw [hlm, Lst.exists_mem_map]
  have heq : sortedPick idx M = sortedPick idx (rs.flatten.map (·.string)) := by
    apply C09.c09_pick_set
    intro y
    rw [hlm', hset, GtL.mem_entStrings]
    constructor
    · rintro ⟨⟨e, he, htt, rfl⟩, s', hs', hg⟩
      obtain ⟨t, ht, h1, h2⟩ := hty e he s' hs' hg htt
      exact ⟨t, ht, e, he, h1, h2, rfl⟩
    · rintro ⟨s', hs', e, he, h1, h2, rfl⟩
      exact ⟨⟨e, he, ⟨s', hs', h1⟩, rfl⟩, s', hs', h2⟩
  refine ⟨_, hp, by rw [hl, heq], GtL.picksLast_sortedPick idx _ _ hpm, ?_⟩
  rw [← heq]
  exact GtL.picksLast_sortedPick idx _ M hlm'

/-! ### (4) `FindInAll` routed to one path Finder, `Sid.get_last` -/

/-- `FindInAll().find(search)` when every typed search that `search` unfolds into is routed
    (`get_finder_for`) to the path Finder with index `i`: the answer of that Finder (`FindInAll`
    removes duplicates; the answer of a '>' search has none) -/
theorem c09_find_in_all (d : DCtx) (w : World) (search : Str) (s0 : Sid) (rest : List Sid)
    (i : Nat) (config : Option Str) (idx : Nat)
    (hu : d.ctx.unfoldSearch search false false = .ok (s0 :: rest))
    (hroute : ∀ s ∈ s0 :: rest, d.finderFor s = some i)
    (hfi : d.data.finders[i]? = some (.paths config))
    (hidx : GtAt idx s0.string) (stars : List Sid)
    (hres : Ctx.mapE (fun x => d.resolveSearch (gtStar x.uri)) (s0 :: rest) = .ok stars)
    (hsp : ∀ s' ∈ stars, HasPattern d w config s')
    (hgm : ∀ s' ∈ stars, '[' ∉ s'.string)
    (htot : ∀ p ∈ w.nodes.map (·.1), ∃ x, d.ctx.sidOfPath p config = .ok x) :
    ∃ r, d.findInAll w search = .ok r ∧ d.pathsDoFind w config (s0 :: rest) = .ok r ∧
      PicksLast idx (PathMatch d w config stars) r := by
  obtain ⟨rs, _, h2, h3⟩ := c09_paths d w config s0 rest idx hidx stars hres hsp hgm htot
  refine ⟨_, ?_, h2, h3⟩
  rw [GtL.findInAll_paths d w search _ i config _ hu hroute hfi h2, Lst.dedupBy_of_nodup _ h3.nodup]

/-- `Sid.get_last(key)`, for a typed Sid `x` (`hx`; for the empty / untyped Sid the answer is the
    empty Sid: `c09_get_last_empty`).  `sk` is the search Sid `x.get_with(key=k, value='>')` with
    `k = lastKey x key`; its string unfolds into `s0 :: rest`, all routed to the path Finder `i`
    (the routing case; otherwise hypotheses as in `c09_paths`).  Then with `r` the answer of that
    path Finder (2): `get_last` is `lastAnswer` of the FIRST element of `r`; `r` is empty iff no
    existing Sid matches; its first element matches and is at least EVERY matching Sid (not only
    those of its group: the picks are listed greatest first). -/
theorem c09_get_last (d : DCtx) (w : World) (x : Sid) (key : Option Str) (sk s0 : Sid)
    (rest : List Sid) (i : Nat) (config : Option Str) (idx : Nat)
    (hx : x.fields.isEmpty = false)
    (hk : d.ctx.getWithKw x [(lastKey x key, some ['>'])] = .ok sk)
    (hu : d.ctx.unfoldSearch sk.string false false = .ok (s0 :: rest))
    (hroute : ∀ s ∈ s0 :: rest, d.finderFor s = some i)
    (hfi : d.data.finders[i]? = some (.paths config))
    (hidx : GtAt idx s0.string) (stars : List Sid)
    (hres : Ctx.mapE (fun x => d.resolveSearch (gtStar x.uri)) (s0 :: rest) = .ok stars)
    (hsp : ∀ s' ∈ stars, HasPattern d w config s')
    (hgm : ∀ s' ∈ stars, '[' ∉ s'.string)
    (htot : ∀ p ∈ w.nodes.map (·.1), ∃ x, d.ctx.sidOfPath p config = .ok x) :
    ∃ r, d.pathsDoFind w config (s0 :: rest) = .ok r ∧
      PicksLast idx (PathMatch d w config stars) r ∧
      d.getLast w x key = lastAnswer d.ctx (lastKey x key) r.head? ∧
      (r = [] ↔ ¬ ∃ y, PathMatch d w config stars y) ∧
      ∀ y, r.head? = some y → PathMatch d w config stars y ∧
        ∀ z, PathMatch d w config stars z → segGe y z := by
  obtain ⟨rs, _, h2, hm⟩ := GtL.pathsDoFind_gt_match d w config s0 rest idx hidx stars hres hsp hgm htot
  have h3 := GtL.picksLast_sortedPick idx _ _ hm
  have hall := GtL.findInAll_paths d w sk.string _ i config _ hu hroute hfi h2
  rw [Lst.dedupBy_of_nodup _ h3.nodup] at hall
  refine ⟨_, h2, h3, ?_, h3.eq_nil_iff, fun y hy => ?_⟩
  · rw [GtL.getLast_eq, hx]
    simp only [Bool.false_eq_true, if_false, hk, hall]
  · obtain ⟨g1, g2⟩ := GtL.head?_sortedPick idx _ y hy
    exact ⟨(hm y).1 g1, fun z hz => g2 z ((hm z).2 hz)⟩

/-- `get_last` of a Sid without fields is the empty Sid -/
theorem c09_get_last_empty (d : DCtx) (w : World) (x : Sid) (key : Option Str)
    (hx : x.fields.isEmpty = true) : d.getLast w x key = .ok Sid.empty := by
  rw [GtL.getLast_eq, hx]; rfl

/-- SINGLE ANSWER.  When the first `idx` segments of every star search are the same literal
    segments `K` (no `*`, `?`, `[`: as for `x.get_with(key='>')` of a Sid `x` that is not itself
    a search, '>' being the only wildcard before which everything is fixed), all matching entries
    form ONE group and the answer of the '>' search has at most one element -/
theorem c09_single_answer (idx : Nat) (stars : List Sid) (K : List Str) (P : Str → Prop)
    (r : List Str) (hr : PicksLast idx P r)
    (hP : ∀ y, P y → ∃ s' ∈ stars, Glob s'.string y)
    (hK : ∀ s' ∈ stars, (Str.splitOn '/' s'.string).take idx = K)
    (hlit : ∀ seg ∈ K, '*' ∉ seg ∧ '?' ∉ seg ∧ '[' ∉ seg) : r.length ≤ 1 := by
  apply hr.length_le_one
  have hkey : ∀ a, P a → groupKey idx a = K := by
    intro a ha
    obtain ⟨s', hs', hg⟩ := hP a ha
    rw [GtL.groupKey_of_glob idx _ a hg (by rw [hK s' hs']; exact hlit), hK s' hs']
  intro a b ha hb
  rw [hkey a ha, hkey b hb]

/-- `PathMatch` entries are matched by the string of a star search (for `c09_single_answer`) -/
theorem c09_pathMatch_glob (d : DCtx) (w : World) (config : Option Str) (stars : List Sid) (y : Str)
    (h : PathMatch d w config stars y) : ∃ s' ∈ stars, Glob s'.string y := by
  obtain ⟨s', hs', _, _, _, _, x, _, _, _, hg, rfl⟩ := h
  exact ⟨s', hs', hg⟩

end C09
