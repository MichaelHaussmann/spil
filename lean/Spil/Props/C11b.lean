/-
  Spil.Props.C11b — C11, the language-level half: "FindInPaths over a file tree and FindInList
  over the corresponding list of Sids return the same Sids".

  The model is the REPAIRED `star_search_simple` (D25): after the type test a found Sid is kept
  only if `re.match(glob2re(str(search)), str(sid))`.  (Before the repair soundness was false on
  the shipped configuration: `C11Ex.c11_sound_regression` keeps the witness.)
-/
import Spil.Spec.Glob
import Spil.Spec.PathWF
import Spil.Lemmas.GlobStar
import Spil.Lemmas.GlobPath
import Spil.Lemmas.GlobSid
import Spil.Lemmas.GlobSound
import Spil.Props.C05b
import Spil.Props.C08

namespace C11

open Spec World GlobL

variable (d : DCtx)

/-! ### (1) exact characterisation of the path star search -/

/-- the totality hypothesis of this file, discharged by C06 for a conform path configuration -/
theorem c11_total_of_wf (config : Option Str) (pc : PathConf)
    (hpc : d.ctx.cfg.pathConf? config = some pc) (hwf : pathConfOk d.ctx.env pc = true)
    (hkt : ∀ label, (pc.resolver.lookup label).isSome →
       (d.ctx.cfg.sid.keyTypes.lookup (((Str.splitStr label d.ctx.cfg.sid.sep).head?).getD [])).isSome)
    (p : Str) : ∃ x, d.ctx.sidOfPath p config = .ok x :=
  C06.c06_total d.ctx p config pc hpc hwf hkt

/-- a typed Sid determines the path it was built from (C06 ownership) -/
theorem c11_hit_inj (config : Option Str) (p q : Str) (x : Sid)
    (hp : d.ctx.sidOfPath p config = .ok x) (hq : d.ctx.sidOfPath q config = .ok x)
    (ht : x.typed = true) : p = q := by
  have h1 := C06.c06_owner d.ctx p config x hp ht
  have h2 := C06.c06_owner d.ctx q config x hq ht
  exact Option.some.inj (Except.ok.inj (h1.symm.trans h2))

/-- `re.match(glob2re(pat), item)` answers (does not leave the model) for a pattern without `[`,
    and then decides the glob relation of C08 -/
theorem c11_globMatch_iff (e : Env) (pat item : Str) (hb : '[' ∉ pat) :
    Find.globMatch e pat item = .ok true ↔ Glob pat item :=
  Find.globMatch_iff e pat item hb

/-- star search over a LIST of typed search Sids, as the (path, Sid) pairs it yields.
    Hypotheses: `hsp` no search raises in `sid.path()`; `hgm` no search string contains `[`
    (`glob2re` is out of model then: K2); `htot` `Sid(path=…)` raises on no node (C06:
    `c11_total_of_wf`).  No condition relates the searches to each other: the memo of
    `star_search_simple` is keyed by (type, pattern, str(search)) (repair D26, witness
    `C11Ex.c11_sameStr_regression`). -/
theorem c11_star_list (w : World) (config : Option Str) (searches : List Sid)
    (hsp : ∀ s ∈ searches, ∃ po, d.ctx.sidPath config s = .ok po)
    (hgm : ∀ s ∈ searches, '[' ∉ s.string)
    (htot : ∀ p ∈ w.nodes.map (·.1), ∃ x, d.ctx.sidOfPath p config = .ok x) :
    ∃ hs : List (Str × Sid),
      d.pathsStarSids w config searches = .ok (hs.map (·.2)) ∧
      (hs.map (·.1)).Nodup ∧ (hs.map (·.2)).Nodup ∧
      ∀ p x, (p, x) ∈ hs ↔ ∃ s ∈ searches, p ∈ w.glob (patOf d config s) ∧
        d.ctx.sidOfPath p config = .ok x ∧ x.typed = true ∧ x.type = s.type ∧
        Find.globMatch d.ctx.env s.string x.string = .ok true := by
  obtain ⟨hs, h1, h2, h3⟩ := pathsStarGo_pairs d w config htot searches hsp hgm [] []
    (fun tp htp => by simp at htp)
  have h3' : ∀ p x, (p, x) ∈ hs ↔ ∃ s ∈ searches, p ∈ w.glob (patOf d config s) ∧
      d.ctx.sidOfPath p config = .ok x ∧ x.typed = true ∧ x.type = s.type ∧
      Find.globMatch d.ctx.env s.string x.string = .ok true := by
    intro p x
    rw [h3]
    constructor
    · rintro ⟨s, hs', hg, _, hh⟩; exact ⟨s, hs', hg, hh⟩
    · rintro ⟨s, hs', hg, hh⟩; exact ⟨s, hs', hg, by simp, hh⟩
  refine ⟨hs, h1, h2, ?_, h3'⟩
  apply Lst.snd_nodup hs h2
  intro p q x hp hq
  obtain ⟨_, _, _, hp1, hp2, _⟩ := (h3' p x).1 hp
  obtain ⟨_, _, _, hq1, _, _⟩ := (h3' q x).1 hq
  exact c11_hit_inj d config p q x hp1 hq1 hp2

/-- the same at the level of Sids: the UNION over the searches -/
theorem c11_star_list_mem (w : World) (config : Option Str) (searches : List Sid)
    (hsp : ∀ s ∈ searches, ∃ po, d.ctx.sidPath config s = .ok po)
    (hgm : ∀ s ∈ searches, '[' ∉ s.string)
    (htot : ∀ p ∈ w.nodes.map (·.1), ∃ x, d.ctx.sidOfPath p config = .ok x) :
    ∃ r, d.pathsStarSids w config searches = .ok r ∧ r.Nodup ∧
      ∀ x, x ∈ r ↔ ∃ s ∈ searches, ∃ p ∈ w.glob (patOf d config s),
        d.ctx.sidOfPath p config = .ok x ∧ x.typed = true ∧ x.type = s.type ∧
        Find.globMatch d.ctx.env s.string x.string = .ok true := by
  obtain ⟨hs, h1, _, h3, h4⟩ := c11_star_list d w config searches hsp hgm htot
  refine ⟨_, h1, h3, fun x => ?_⟩
  rw [List.mem_map]
  constructor
  · rintro ⟨⟨p, y⟩, hpy, rfl⟩
    obtain ⟨s, hs', hg, hh⟩ := (h4 p y).1 hpy
    exact ⟨s, hs', p, hg, hh⟩
  · rintro ⟨s, hs', p, hg, hh⟩
    exact ⟨(p, x), (h4 p x).2 ⟨s, hs', hg, hh⟩, rfl⟩

/-- star search for ONE typed search Sid with a path -/
theorem c11_star_one (w : World) (config : Option Str) (s : Sid) (pat : Str)
    (hs : d.ctx.sidPath config s = .ok (some pat)) (hgm : '[' ∉ s.string)
    (htot : ∀ p ∈ w.nodes.map (·.1), ∃ x, d.ctx.sidOfPath p config = .ok x) :
    ∃ r, d.pathsStarSids w config [s] = .ok r ∧ r.Nodup ∧
      ∀ x, x ∈ r ↔ ∃ p ∈ w.glob pat,
        d.ctx.sidOfPath p config = .ok x ∧ x.typed = true ∧ x.type = s.type ∧
        Find.globMatch d.ctx.env s.string x.string = .ok true := by
  obtain ⟨r, h1, h2, h3⟩ := c11_star_list_mem d w config [s]
    (List.forall_mem_singleton.2 ⟨_, hs⟩) (List.forall_mem_singleton.2 hgm) htot
  refine ⟨r, h1, h2, fun x => ?_⟩
  simp only [h3, List.mem_singleton, exists_eq_left, patOf_some d config s pat hs]

/-! ### (2) completeness of the rendered glob pattern -/

/-- the pattern `sid.path()` renders for a search Sid `s` and the path it renders for an entity
    `e` that `s` globs field by field have the same number of '/' components, and every component
    of the pattern `fnmatch`es the corresponding component of the path.  Hypotheses:
    * `hfix`: `*` is a fixed point of the reverse value mapping (else the pattern does not even
      contain the star: `c11_starFixed_needed`);
    * `hvals`: the entity's path values are non-empty, '/'-free and do not start with '.'
      (`c11_empty_value_needed`, `c11_hidden_value_needed`);
    * `hb`: no `[` in the pattern (known finding K2: `glob2re` / `fnmatch` read it as a class). -/
theorem c11_pattern_matches (c : Ctx) (config : Option Str) (s e : Sid) (pat p : Str)
    (hs : c.sidPath config s = .ok (some pat)) (he : c.sidPath config e = .ok (some p))
    (hg : SidGlob s e)
    (hfix : ∀ pc, c.cfg.pathConf? config = some pc → starFixed pc = true)
    (hvals : entityValsOk c config e = true) (hb : '[' ∉ pat) :
    (Str.splitOn '/' pat).length = (Str.splitOn '/' p).length ∧
    ∀ (i : Nat) (a b : Str), (Str.splitOn '/' pat)[i]? = some a → (Str.splitOn '/' p)[i]? = some b →
      World.compMatch a b = true := by
  have h := sidPath_compMatch c config s e pat p hs he hg hfix hvals hb
  exact ⟨All2.length_eq h, All2.get h⟩

/-- hence `glob.glob(pattern)` returns the entity's path whenever it exists in the tree -/
theorem c11_glob_mem (c : Ctx) (w : World) (config : Option Str) (s e : Sid) (pat p : Str)
    (hs : c.sidPath config s = .ok (some pat)) (he : c.sidPath config e = .ok (some p))
    (hg : SidGlob s e)
    (hfix : ∀ pc, c.cfg.pathConf? config = some pc → starFixed pc = true)
    (hvals : entityValsOk c config e = true) (hb : '[' ∉ pat)
    (hex : w.pathExists p = true) : p ∈ w.glob pat := by
  refine (mem_glob w pat p).2 ⟨?_, sidPath_compMatch c config s e pat p hs he hg hfix hvals hb⟩
  exact (Lst.lookup_isSome_iff w.nodes p).1 hex

/-- `entityValsOk` from conditions on the configuration and on the Sid's own values: all field
    values of the entity are `valOk` and so are the path-side values of the configuration -/
theorem c11_entityValsOk (c : Ctx) (config : Option Str) (e : Sid) (p : Str)
    (he : c.sidPath config e = .ok (some p))
    (hside : ∀ pc, c.cfg.pathConf? config = some pc → pathSideOk pc = true)
    (hv : e.fields.all (fun kv => valOk kv.2) = true) : entityValsOk c config e = true := by
  obtain ⟨pc, t, raw, hpc, _, ht, _⟩ := PathL.sidPath_inv c config e p he
  unfold entityValsOk
  simp only [hpc, ht]
  have hs := hside pc hpc
  simp only [pathSideOk, Bool.and_eq_true] at hs
  have hne : ∀ v, valOk v = true → v ≠ [] := fun v hv => by
    rintro rfl
    simp [valOk] at hv
  refine all_pathData pc valOk (fun k v hv => ?_) (fun k v hv => ?_) (fun k dv hdv hdne => ?_) _ _ hv
  · rw [Det.g1_of_ne pc k v (hne v hv)]
    exact hv
  · rcases Det.g2_cases pc k v with h | ⟨m, pv, hm, hpv, _, h⟩
    · rw [h]
      exact hv
    · rw [h]
      exact List.all_eq_true.1 (List.all_eq_true.1 hs.1 _ (Lst.lookup_mem _ _ _ hm)) pv hpv
  · have := List.all_eq_true.1 hs.2 _ (Lst.lookup_mem _ _ _ hdv)
    simpa only [hdne, Bool.false_or] using this

/-! ### (3) whatever the list search finds among the existing entities, the path search finds -/

/-- fields ⇒ strings: a field-wise glob between two well-typed Sids is the glob relation of C08
    between their strings, i.e. the list search for `s.string` matches `e.string` -/
theorem c11_string_glob (env : Env) (ts : List (Str × Template)) (s e : Sid)
    (hs : wellTyped env ts s) (he : wellTyped env ts e) (hg : SidGlob s e) (hb : '[' ∉ s.string) :
    Glob s.string e.string := by
  refine (glob_iff_comps _ _).2
    (All2.mono ((fieldsGlob_iff_segs env ts s e hs he hg.1).1 hg.2) fun a ha b hb' hab => ?_)
  exact hab.glob (fun hm => hb (Str.mem_of_mem_splitOn '/' _ a '[' ha hm))
    (Str.splitOn_not_mem '/' e.string b hb')

/-- strings ⇒ fields, for a whole-segment star search (every segment is `*` or wildcard-free) -/
theorem c11_fields_glob (env : Env) (ts : List (Str × Template)) (s e : Sid)
    (hs : wellTyped env ts s) (he : wellTyped env ts e) (hty : s.type = e.type)
    (hw : wholeStar s.string) (hb : '[' ∉ s.string) (hg : Glob s.string e.string) : SidGlob s e := by
  refine ⟨hty, (fieldsGlob_iff_segs env ts s e hs he hty).2
    (All2.mono (Glob.comps hg) fun a ha b _ hab => ?_)⟩
  rcases hw a ha with rfl | ⟨h1, h2⟩
  · exact Or.inl rfl
  · have hba : '[' ∉ a := fun hm => hb (Str.mem_of_mem_splitOn '/' _ a '[' ha hm)
    exact Or.inr ((C08.c08_literal a b h1 h2 hba).1 hab).symm

/-- COMPLETENESS for a list of search Sids: an existing, round-tripping entity globbed field by
    field by ONE of them is found (hypotheses explained at `c11_complete`) -/
theorem c11_complete_list (w : World) (config : Option Str) (searches : List Sid) (s e : Sid)
    (pat p : Str) (r : List Sid)
    (hsp : ∀ s ∈ searches, ∃ po, d.ctx.sidPath config s = .ok po)
    (hgm : ∀ s ∈ searches, '[' ∉ s.string)
    (hmem : s ∈ searches) (hs : d.ctx.sidPath config s = .ok (some pat))
    (hws : wellTyped d.ctx.env d.ctx.cfg.sid.templates s)
    (hwe : wellTyped d.ctx.env d.ctx.cfg.sid.templates e)
    (hex : w.pathExists p = true) (hrt : d.ctx.sidOfPath p config = .ok e) (hty : e.typed = true)
    (hg : SidGlob s e)
    (hfix : ∀ pc, d.ctx.cfg.pathConf? config = some pc → starFixed pc = true)
    (hvals : entityValsOk d.ctx config e = true) (hb : '[' ∉ pat)
    (htot : ∀ p ∈ w.nodes.map (·.1), ∃ x, d.ctx.sidOfPath p config = .ok x)
    (hr : d.pathsStarSids w config searches = .ok r) : e ∈ r := by
  obtain ⟨r', h1, _, h3⟩ := c11_star_list_mem d w config searches hsp hgm htot
  cases hr.symm.trans h1
  rw [h3]
  have he := C06.c06_owner d.ctx p config e hrt hty
  have hbs := hgm s hmem
  refine ⟨s, hmem, p, ?_, hrt, hty, hg.1.symm,
    (c11_globMatch_iff _ _ _ hbs).2 (c11_string_glob _ _ s e hws hwe hg hbs)⟩
  rw [patOf_some d config s pat hs]
  exact c11_glob_mem d.ctx w config s e pat p hs he hg hfix hvals hb hex

/-- COMPLETENESS for one search: every existing entity `e` (its path `p` is a node of the tree) that round-trips
    (`Sid(path=p) = e`: property C05, `C05.c05_roundtrip`), and is globbed field by field by the
    typed search Sid `s`, is found by the path search for `s`.  (`hws`, `hwe`, `hbs` serve the
    repaired string test: field-wise glob of well-typed Sids ⇒ glob of their strings.) -/
theorem c11_complete (w : World) (config : Option Str) (s e : Sid) (pat p : Str) (r : List Sid)
    (hs : d.ctx.sidPath config s = .ok (some pat))
    (hws : wellTyped d.ctx.env d.ctx.cfg.sid.templates s)
    (hwe : wellTyped d.ctx.env d.ctx.cfg.sid.templates e) (hbs : '[' ∉ s.string)
    (hex : w.pathExists p = true) (hrt : d.ctx.sidOfPath p config = .ok e) (hty : e.typed = true)
    (hg : SidGlob s e)
    (hfix : ∀ pc, d.ctx.cfg.pathConf? config = some pc → starFixed pc = true)
    (hvals : entityValsOk d.ctx config e = true) (hb : '[' ∉ pat)
    (htot : ∀ p ∈ w.nodes.map (·.1), ∃ x, d.ctx.sidOfPath p config = .ok x)
    (hr : d.pathsStarSids w config [s] = .ok r) : e ∈ r :=
  c11_complete_list d w config [s] s e pat p r
    (List.forall_mem_singleton.2 ⟨_, hs⟩) (List.forall_mem_singleton.2 hbs)
    (List.mem_singleton.2 rfl) hs hws hwe hex hrt hty hg hfix hvals hb htot hr

/-- FindInList ⊆ FindInPaths on the existing entities: let `ents` be entities that exist in the
    tree and round-trip, `s` a well-typed whole-segment star search with a path.  Every entity of
    the searched type whose string `FindInList(strings of ents).star_search([s])` returns is
    returned by `FindInPaths.star_search_simple([s])`. -/
theorem c11_list_subset_paths (w : World) (config : Option Str) (s : Sid) (pat : Str)
    (ents : List Sid) (found : List Str) (r : List Sid)
    (hs : d.ctx.sidPath config s = .ok (some pat))
    (hws : wellTyped d.ctx.env d.ctx.cfg.sid.templates s)
    (hw : wholeStar s.string) (hbs : '[' ∉ s.string) (hb : '[' ∉ pat)
    (hfix : ∀ pc, d.ctx.cfg.pathConf? config = some pc → starFixed pc = true)
    (htot : ∀ p ∈ w.nodes.map (·.1), ∃ x, d.ctx.sidOfPath p config = .ok x)
    (hents : ∀ e ∈ ents, wellTyped d.ctx.env d.ctx.cfg.sid.templates e ∧ e.typed = true ∧
      entityValsOk d.ctx config e = true ∧
      ∃ p, w.pathExists p = true ∧ d.ctx.sidOfPath p config = .ok e)
    (hl : Find.starSearch d.ctx.env ⟨ents.map (·.string), false⟩ [s.string] = .ok found)
    (hr : d.pathsStarSids w config [s] = .ok r) :
    ∀ e ∈ ents, e.type = s.type → e.string ∈ found → e ∈ r := by
  intro e he hty hf
  obtain ⟨hwe, htyped, hvals, p, hex, hrt⟩ := hents e he
  have hglob := (((C08.c08_star_search_one d.ctx.env _ s.string hbs found hl).2 e.string).1 hf).2
  have hg := c11_fields_glob d.ctx.env _ s e hws hwe hty.symm hw hbs hglob
  exact c11_complete d w config s e pat p r hs hws hwe hbs hex hrt htyped hg hfix hvals hb htot hr

/-- and conversely every entity that `s` globs field by field IS returned by the list search -/
theorem c11_list_finds (env : Env) (ts : List (Str × Template)) (s e : Sid) (l found : List Str)
    (hs : wellTyped env ts s) (he : wellTyped env ts e) (hg : SidGlob s e) (hb : '[' ∉ s.string)
    (hmem : e.string ∈ l)
    (hl : Find.starSearch env ⟨l, false⟩ [s.string] = .ok found) : e.string ∈ found :=
  ((C08.c08_star_search_one env l s.string hb found hl).2 e.string).2
    ⟨hmem, c11_string_glob env ts s e hs he hg hb⟩

/-! ### (4) soundness (true since the repair D25) -/

/-- SOUNDNESS: every Sid the path search yields is typed with the searched type, OWNS (C06) an
    existing path, and its STRING is globbed by the search string (relation of C08) — i.e.
    FindInList over any list containing it finds it.
    No totality hypothesis: this is a property of whatever the search returns. -/
theorem c11_sound (w : World) (config : Option Str) (s : Sid) (r : List Sid) (hbs : '[' ∉ s.string)
    (hr : d.pathsStarSids w config [s] = .ok r) :
    ∀ x ∈ r, x.typed = true ∧ x.type = s.type ∧ Glob s.string x.string ∧
      ∃ p, w.pathExists p = true ∧ d.ctx.sidOfPath p config = .ok x ∧
        d.ctx.sidPath config x = .ok (some p) := by
  intro x hx
  obtain ⟨s', hs', p, h4, h5, h1, h2, h3⟩ := FSL.pathsStarGo_inv d w config [s] [] [] r hr x hx
  simp only [List.mem_singleton] at hs'
  subst hs'
  exact ⟨h1, h2, (c11_globMatch_iff _ _ _ hbs).1 h3, p, h4, h5, C06.c06_owner d.ctx p config x h5 h1⟩

/-- the same for a list of searches -/
theorem c11_sound_list (w : World) (config : Option Str) (searches : List Sid) (r : List Sid)
    (hgm : ∀ s ∈ searches, '[' ∉ s.string)
    (hr : d.pathsStarSids w config searches = .ok r) :
    ∀ x ∈ r, ∃ s ∈ searches, x.typed = true ∧ x.type = s.type ∧ Glob s.string x.string := by
  intro x hx
  obtain ⟨s, hs, _, _, _, h1, h2, h3⟩ := FSL.pathsStarGo_inv d w config searches [] [] r hr x hx
  exact ⟨s, hs, h1, h2, (c11_globMatch_iff _ _ _ (hgm s hs)).1 h3⟩

/-- field-level soundness for a whole-segment star search between well-typed Sids -/
theorem c11_sound_fields (w : World) (config : Option Str) (s : Sid) (r : List Sid)
    (hbs : '[' ∉ s.string) (hw : wholeStar s.string)
    (hws : wellTyped d.ctx.env d.ctx.cfg.sid.templates s)
    (hr : d.pathsStarSids w config [s] = .ok r) :
    ∀ x ∈ r, wellTyped d.ctx.env d.ctx.cfg.sid.templates x → SidGlob s x := by
  intro x hx hwx
  obtain ⟨_, hty, hg, _⟩ := c11_sound d w config s r hbs hr x hx
  exact c11_fields_glob _ _ s x hws hwx hty.symm hw hbs hg

/-- every found Sid's path is globbed by the rendered pattern as a whole string -/
theorem c11_sound_paths (w : World) (config : Option Str) (s : Sid) (pat : Str) (r : List Sid)
    (hs : d.ctx.sidPath config s = .ok (some pat)) (hbs : '[' ∉ s.string)
    (htot : ∀ p ∈ w.nodes.map (·.1), ∃ x, d.ctx.sidOfPath p config = .ok x)
    (hr : d.pathsStarSids w config [s] = .ok r) :
    ∀ x ∈ r, x.typed = true ∧ x.type = s.type ∧ ∃ p, w.pathExists p = true ∧
      d.ctx.sidOfPath p config = .ok x ∧ d.ctx.sidPath config x = .ok (some p) ∧ Glob pat p := by
  obtain ⟨r', h1, _, h3⟩ := c11_star_one d w config s pat hs hbs htot
  cases hr.symm.trans h1
  intro x hx
  obtain ⟨p, hp, hx1, hx2, hx3, _⟩ := (h3 x).1 hx
  exact ⟨hx2, hx3, p, FSL.pathExists_of_mem_glob w pat p hp, hx1, C06.c06_owner d.ctx p config x hx1 hx2,
    (glob_of_mem_glob w pat p hp).2⟩

/-- a search whose pattern has no wildcard finds at most the Sid built from that very path -/
theorem c11_sound_concrete (w : World) (config : Option Str) (s : Sid) (pat : Str) (r : List Sid)
    (hs : d.ctx.sidPath config s = .ok (some pat)) (hbs : '[' ∉ s.string)
    (htot : ∀ p ∈ w.nodes.map (·.1), ∃ x, d.ctx.sidOfPath p config = .ok x)
    (h1 : '*' ∉ pat) (h2 : '?' ∉ pat) (h3 : '[' ∉ pat)
    (hr : d.pathsStarSids w config [s] = .ok r) :
    ∀ x ∈ r, d.ctx.sidOfPath pat config = .ok x ∧ w.pathExists pat = true := by
  intro x hx
  obtain ⟨_, _, p, hex, hrt, _, hg⟩ := c11_sound_paths d w config s pat r hs hbs htot hr x hx
  have := (C08.c08_literal pat p h1 h2 h3).1 hg
  subst this
  exact ⟨hrt, hex⟩

/-- PATH-level fact about pinned keys (it explains why, without the string test of repair D25, the
    search is unsound exactly on the keys that only occur inside a file name): if the
    texts rendered for the search Sid and for a Sid by the template of their type are already
    normalised, all path values are '/'-free and the key `k` occupies a whole '/' component of
    the template, then a whole-string glob between the two texts forces the search's path value of
    `k` to glob the other's. -/
theorem c11_sound_pinned_partial (pc : PathConf) (t : Template) (k : Str) (s x : Sid) (pat p : Str)
    (hpin : pinned k t = true)
    (hs : Template.format t (Ctx.pathData pc s.fields (Template.keys t)) = some pat)
    (hx : Template.format t (Ctx.pathData pc x.fields (Template.keys t)) = some p)
    (hfs : ∀ kv ∈ Ctx.pathData pc s.fields (Template.keys t), '/' ∉ kv.2)
    (hfx : ∀ kv ∈ Ctx.pathData pc x.fields (Template.keys t), '/' ∉ kv.2)
    (hg : Glob pat p) :
    ∃ vs vx, (Ctx.pathData pc s.fields (Template.keys t)).get k = some vs ∧
      (Ctx.pathData pc x.fields (Template.keys t)).get k = some vx ∧ Glob vs vx :=
  pinned_value t k _ _ pat p hpin hs hx hfs hfx hg

/-! ### (5) FindInPaths = FindInList -/

/-- the hypotheses on a tree `w` that "holds exactly the entities `ents` plus junk" for the
    searched type `ty` under the path configuration `config`:
    * every entity is well typed, typed, has admissible path values (`entityValsOk`), exists in
      the tree and round-trips (C05: `C05.c05_roundtrip` derives it for `Admissible` Sids);
    * `Sid(path=…)` raises on no node (C06: `c11_total_of_wf`);
    * every node that resolves to a typed Sid of the searched type resolves to an entity. -/
structure HoldsExactly (d : DCtx) (w : World) (config : Option Str) (ty : Str) (ents : List Sid) :
    Prop where
  ents_ok : ∀ e ∈ ents, wellTyped d.ctx.env d.ctx.cfg.sid.templates e ∧ e.typed = true ∧
    entityValsOk d.ctx config e = true ∧
    ∃ p, w.pathExists p = true ∧ d.ctx.sidOfPath p config = .ok e
  total : ∀ p ∈ w.nodes.map (·.1), ∃ x, d.ctx.sidOfPath p config = .ok x
  exact : ∀ p ∈ w.nodes.map (·.1), ∀ x, d.ctx.sidOfPath p config = .ok x → x.typed = true →
    x.type = ty → x ∈ ents

/-- a tree given as a table "node ↦ what `Sid(path=…)` answers for it" holds exactly the entities
    `ents` when each of them is an answer of the table and every typed answer of type `ty` is one of
    them; for a concrete tree the first and last hypotheses are closed terms -/
theorem HoldsExactly.of_table (d : DCtx) (w : World) (config : Option Str) (ty : Str)
    (ents : List Sid) (tbl : List (Str × Sid)) (hw : w.nodes.map (·.1) = tbl.map (·.1))
    (hrt : ∀ q ∈ tbl, d.ctx.sidOfPath q.1 config = .ok q.2)
    (hents : ∀ e ∈ ents, wellTyped d.ctx.env d.ctx.cfg.sid.templates e ∧ e.typed = true ∧
      entityValsOk d.ctx config e = true ∧ ∃ q ∈ tbl, q.2 = e ∧ w.pathExists q.1 = true)
    (hex : ∀ q ∈ tbl, q.2.typed = true → q.2.type = ty → q.2 ∈ ents) :
    HoldsExactly d w config ty ents where
  ents_ok e he := by
    obtain ⟨h1, h2, h3, q, hq, rfl, h4⟩ := hents e he
    exact ⟨h1, h2, h3, q.1, h4, hrt q hq⟩
  total p hp := by
    rw [hw] at hp
    obtain ⟨q, hq, rfl⟩ := List.mem_map.1 hp
    exact ⟨q.2, hrt q hq⟩
  exact p hp x hx hxt hty := by
    rw [hw] at hp
    obtain ⟨q, hq, rfl⟩ := List.mem_map.1 hp
    obtain rfl : q.2 = x := Except.ok.inj ((hrt q hq).symm.trans hx)
    exact hex q hq hxt hty

/-- EQUALITY (whole-segment star searches): on a tree that holds exactly the entities `ents` plus
    junk, the path search and the list search for the typed search Sid `s` both succeed, neither
    yields anything twice, and the Sids FindInPaths returns are exactly the entities of the
    searched type whose string FindInList returns.  (FindInList itself ignores types — known
    finding K6 — hence the restriction `e.type = s.type` on the right.)
    `wholeStar s.string` is needed by the completeness direction only (⊇); soundness (⊆) holds for
    every search string without `[`.  Missing for partial globs (`ha*`): the passage from the glob
    between STRINGS to a relation between FIELD VALUES that survives the value mapping of
    `dict_to_path` (a mapped key breaks it: `ha*` is not mapped, `hamlet ↦ HAMLET` is) and the
    component-level conditions of `PurePosixPath` / hidden names for stars that may be empty. -/
theorem c11_paths_eq_list_whole (w : World) (config : Option Str) (s : Sid) (pat : Str)
    (ents : List Sid)
    (hs : d.ctx.sidPath config s = .ok (some pat))
    (hws : wellTyped d.ctx.env d.ctx.cfg.sid.templates s)
    (hw : wholeStar s.string) (hbs : '[' ∉ s.string) (hb : '[' ∉ pat)
    (hfix : ∀ pc, d.ctx.cfg.pathConf? config = some pc → starFixed pc = true)
    (hw_ents : HoldsExactly d w config s.type ents) :
    ∃ found r, Find.starSearch d.ctx.env ⟨ents.map (·.string), false⟩ [s.string] = .ok found ∧
      d.pathsStarSids w config [s] = .ok r ∧ found.Nodup ∧ r.Nodup ∧
      ∀ x, x ∈ r ↔ (x ∈ ents ∧ x.type = s.type ∧ x.string ∈ found) := by
  obtain ⟨hents, htot, hexact⟩ := hw_ents
  have hl := C08.c08_star_search d.ctx.env (ents.map (·.string)) [s.string]
    (List.forall_mem_singleton.2 hbs)
  obtain ⟨hfn, hfm⟩ := C08.c08_star_search_one d.ctx.env _ s.string hbs _ hl
  obtain ⟨r, hr, hrn, hrm⟩ := c11_star_one d w config s pat hs hbs htot
  refine ⟨_, r, hl, hr, hfn, hrn, fun x => ?_⟩
  constructor
  · intro hx
    obtain ⟨p, hp, hx1, hx2, hx3, hx4⟩ := (hrm x).1 hx
    have hxe : x ∈ ents := hexact p (glob_of_mem_glob w pat p hp).1 x hx1 hx2 hx3
    refine ⟨hxe, hx3, (hfm x.string).2 ⟨List.mem_map.2 ⟨x, hxe, rfl⟩, ?_⟩⟩
    exact (c11_globMatch_iff _ _ _ hbs).1 hx4
  · rintro ⟨hxe, hty, hf⟩
    exact c11_list_subset_paths d w config s pat ents _ r hs hws hw hbs hb hfix htot hents hl hr
      x hxe hty hf

/-- the same as an equality up to order: the result of FindInPaths is a permutation of the
    entities (listed once each) of the searched type whose string FindInList returns -/
theorem c11_paths_perm_list_whole (w : World) (config : Option Str) (s : Sid) (pat : Str)
    (ents : List Sid) (hnd : ents.Nodup)
    (hs : d.ctx.sidPath config s = .ok (some pat))
    (hws : wellTyped d.ctx.env d.ctx.cfg.sid.templates s)
    (hw : wholeStar s.string) (hbs : '[' ∉ s.string) (hb : '[' ∉ pat)
    (hfix : ∀ pc, d.ctx.cfg.pathConf? config = some pc → starFixed pc = true)
    (hw_ents : HoldsExactly d w config s.type ents) :
    ∃ found r, Find.starSearch d.ctx.env ⟨ents.map (·.string), false⟩ [s.string] = .ok found ∧
      d.pathsStarSids w config [s] = .ok r ∧
      r.Perm (ents.filter (fun e => decide (e.type = s.type) && found.contains e.string)) := by
  obtain ⟨found, r, h1, h2, _, h4, h5⟩ :=
    c11_paths_eq_list_whole d w config s pat ents hs hws hw hbs hb hfix hw_ents
  refine ⟨found, r, h1, h2, (List.perm_ext_iff_of_nodup h4 (hnd.sublist List.filter_sublist)).2 ?_⟩
  intro x
  rw [h5, List.mem_filter]
  simp

/-- LOCAL = SERVER: two path configurations `c1`, `c2` and two trees `w1`, `w2` that hold the same
    entities (each exactly, for its own configuration) answer a whole-segment star search with the
    same set of Sids -/
theorem c11_local_eq_server (w1 w2 : World) (c1 c2 : Option Str) (s : Sid) (pat1 pat2 : Str)
    (ents : List Sid)
    (hs1 : d.ctx.sidPath c1 s = .ok (some pat1)) (hs2 : d.ctx.sidPath c2 s = .ok (some pat2))
    (hws : wellTyped d.ctx.env d.ctx.cfg.sid.templates s)
    (hw : wholeStar s.string) (hbs : '[' ∉ s.string) (hb1 : '[' ∉ pat1) (hb2 : '[' ∉ pat2)
    (hfix1 : ∀ pc, d.ctx.cfg.pathConf? c1 = some pc → starFixed pc = true)
    (hfix2 : ∀ pc, d.ctx.cfg.pathConf? c2 = some pc → starFixed pc = true)
    (he1 : HoldsExactly d w1 c1 s.type ents) (he2 : HoldsExactly d w2 c2 s.type ents) :
    ∃ r1 r2, d.pathsStarSids w1 c1 [s] = .ok r1 ∧ d.pathsStarSids w2 c2 [s] = .ok r2 ∧
      r1.Nodup ∧ r2.Nodup ∧ (∀ x, x ∈ r1 ↔ x ∈ r2) ∧ r1.Perm r2 := by
  obtain ⟨f1, r1, hf1, hr1, _, hn1, hm1⟩ :=
    c11_paths_eq_list_whole d w1 c1 s pat1 ents hs1 hws hw hbs hb1 hfix1 he1
  obtain ⟨f2, r2, hf2, hr2, _, hn2, hm2⟩ :=
    c11_paths_eq_list_whole d w2 c2 s pat2 ents hs2 hws hw hbs hb2 hfix2 he2
  cases hf1.symm.trans hf2
  have hm : ∀ x, x ∈ r1 ↔ x ∈ r2 := fun x => by rw [hm1, hm2]
  exact ⟨r1, r2, hr1, hr2, hn1, hn2, hm, (List.perm_ext_iff_of_nodup hn1 hn2).2 hm⟩

end C11
