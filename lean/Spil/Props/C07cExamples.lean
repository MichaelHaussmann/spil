/-
  Spil.Props.C07cExamples — non-vacuity of C07c / C10b on the SHIPPED configuration: the expressions
  `hamlet/a,s/*`, `hamlet/a/char/x/model/v001/w/maya`, `hamlet/a/**/ma`, the right-hand sides of
  their rewrite rules and the malformed `hamlet/**/**` are unfolded by the kernel (`decide +kernel`
  on a Boolean test), every hypothesis of the theorems is discharged for them, and the theorems are
  instantiated.  GENERATED char lists.
-/
import Spil.Generated.DemoConf
import Spil.Props.Tie
import Spil.Props.C07c
import Spil.Props.C10b

namespace C07Ex

open Spec Generated Ctx

def demoCtx : Ctx := ⟨demoConf, demoEnv⟩

/-- Boolean test: the call succeeded and returned Sids with these uris, in this order -/
def urisAre (x : Except Err (List Sid)) (us : List Str) : Bool :=
  match x with
  | .ok r => decide (r.map Sid.uri = us)
  | .error _ => false

theorem urisAre_ok (x : Except Err (List Sid)) (us : List Str) (h : urisAre x us = true) :
    ∃ r, x = .ok r ∧ r.map Sid.uri = us := by
  unfold urisAre at h
  split at h
  · next r => exact ⟨r, rfl, by simpa using h⟩
  · cases h

def errIs (x : Except Err (List Sid)) (e : Err) : Bool :=
  match x with
  | .ok _ => false
  | .error e' => decide (e' = e)

theorem errIs_eq (x : Except Err (List Sid)) (e : Err) (h : errIs x e = true) : x = .error e := by
  unfold errIs at h
  split at h
  · cases h
  · simp only [decide_eq_true_eq] at h; rw [h]

theorem demo_confOk : ConfOk demoCtx where
  wf := Tie.demo_wf
  alias := by decide +kernel
  noEmptyNarrow := by decide +kernel

theorem demo_aliasFlat : aliasFlat demoCtx.cfg.sid = true := by decide +kernel

/-- a Boolean test sufficient for the conditions of C07c on an expression -/
def exprOkB (s : Str) : Bool :=
  !Str.hasChar '?' s && !Str.hasChar ':' s && !Str.isInfix startMark s && rootedB s

theorem exprOk_of_dec (c : Ctx) (hal : aliasOk c.cfg.sid = true) (s : Str)
    (h : exprOkB s = true) : ExprOk c s := by
  simp only [exprOkB, Bool.and_eq_true, Bool.not_eq_true'] at h
  exact ⟨(Str.hasChar_eq_false_iff _ _).1 h.1.1.1, (Str.hasChar_eq_false_iff _ _).1 h.1.1.2, h.1.2,
    DenL.rooted_of_dec c hal s h.2⟩

/-- "hamlet/a,s/*" -/
def sOr : Str := ['h','a','m','l','e','t','/','a',',','s','/','*']
def sOrUris : List Str := [['a','s','s','e','t','_','_','a','s','s','e','t','t','y','p','e',':','h','a','m','l','e','t','/','a','/','*'], ['s','h','o','t','_','_','s','e','q','u','e','n','c','e',':','h','a','m','l','e','t','/','s','/','*']]
theorem sOr_ok : ExprOk demoCtx sOr :=
  exprOk_of_dec demoCtx demo_confOk.alias sOr (by decide +kernel)
theorem sOr_eval : ∃ r, demoCtx.unfoldSearch sOr false false = .ok r ∧ r.map Sid.uri = sOrUris :=
  urisAre_ok _ _ (by decide +kernel)

/-- "hamlet/a/char/x/model/v001/w/maya" -/
def sAlias : Str := ['h','a','m','l','e','t','/','a','/','c','h','a','r','/','x','/','m','o','d','e','l','/','v','0','0','1','/','w','/','m','a','y','a']
def sAliasUris : List Str := [['a','s','s','e','t','_','_','f','i','l','e',':','h','a','m','l','e','t','/','a','/','c','h','a','r','/','x','/','m','o','d','e','l','/','v','0','0','1','/','w','/','m','a'], ['a','s','s','e','t','_','_','f','i','l','e',':','h','a','m','l','e','t','/','a','/','c','h','a','r','/','x','/','m','o','d','e','l','/','v','0','0','1','/','w','/','m','b']]
theorem sAlias_ok : ExprOk demoCtx sAlias :=
  exprOk_of_dec demoCtx demo_confOk.alias sAlias (by decide +kernel)
theorem sAlias_eval : ∃ r, demoCtx.unfoldSearch sAlias false false = .ok r ∧ r.map Sid.uri = sAliasUris :=
  urisAre_ok _ _ (by decide +kernel)

/-- "hamlet/a/**/ma" -/
def sStars : Str := ['h','a','m','l','e','t','/','a','/','*','*','/','m','a']
def sStarsUris : List Str := [['a','s','s','e','t','_','_','f','i','l','e',':','h','a','m','l','e','t','/','a','/','*','/','*','/','*','/','*','/','*','/','m','a']]
theorem sStars_ok : ExprOk demoCtx sStars :=
  exprOk_of_dec demoCtx demo_confOk.alias sStars (by decide +kernel)
theorem sStars_eval : ∃ r, demoCtx.unfoldSearch sStars false false = .ok r ∧ r.map Sid.uri = sStarsUris :=
  urisAre_ok _ _ (by decide +kernel)

/-- "hamlet/a/*" -/
def sOrA : Str := ['h','a','m','l','e','t','/','a','/','*']
def sOrAUris : List Str := [['a','s','s','e','t','_','_','a','s','s','e','t','t','y','p','e',':','h','a','m','l','e','t','/','a','/','*']]
theorem sOrA_ok : ExprOk demoCtx sOrA :=
  exprOk_of_dec demoCtx demo_confOk.alias sOrA (by decide +kernel)
theorem sOrA_eval : ∃ r, demoCtx.unfoldSearch sOrA false false = .ok r ∧ r.map Sid.uri = sOrAUris :=
  urisAre_ok _ _ (by decide +kernel)

/-- "hamlet/s/*" -/
def sOrS : Str := ['h','a','m','l','e','t','/','s','/','*']
def sOrSUris : List Str := [['s','h','o','t','_','_','s','e','q','u','e','n','c','e',':','h','a','m','l','e','t','/','s','/','*']]
theorem sOrS_ok : ExprOk demoCtx sOrS :=
  exprOk_of_dec demoCtx demo_confOk.alias sOrS (by decide +kernel)
theorem sOrS_eval : ∃ r, demoCtx.unfoldSearch sOrS false false = .ok r ∧ r.map Sid.uri = sOrSUris :=
  urisAre_ok _ _ (by decide +kernel)

/-- "hamlet/a/char/x/model/v001/w/ma,mb" -/
def sAliasExp : Str := ['h','a','m','l','e','t','/','a','/','c','h','a','r','/','x','/','m','o','d','e','l','/','v','0','0','1','/','w','/','m','a',',','m','b']
def sAliasExpUris : List Str := [['a','s','s','e','t','_','_','f','i','l','e',':','h','a','m','l','e','t','/','a','/','c','h','a','r','/','x','/','m','o','d','e','l','/','v','0','0','1','/','w','/','m','a'], ['a','s','s','e','t','_','_','f','i','l','e',':','h','a','m','l','e','t','/','a','/','c','h','a','r','/','x','/','m','o','d','e','l','/','v','0','0','1','/','w','/','m','b']]
theorem sAliasExp_ok : ExprOk demoCtx sAliasExp :=
  exprOk_of_dec demoCtx demo_confOk.alias sAliasExp (by decide +kernel)
theorem sAliasExp_eval : ∃ r, demoCtx.unfoldSearch sAliasExp false false = .ok r ∧ r.map Sid.uri = sAliasExpUris :=
  urisAre_ok _ _ (by decide +kernel)

/-- "hamlet/**/**" : malformed -/
def sTwo : Str := ['h','a','m','l','e','t','/','*','*','/','*','*']
theorem sTwo_ok : ExprOk demoCtx sTwo :=
  exprOk_of_dec demoCtx demo_confOk.alias sTwo (by decide +kernel)
theorem sTwo_eval : demoCtx.unfoldSearch sTwo false false = .error .spil := errIs_eq _ _ (by decide +kernel)

/-! ### the theorems instantiated -/

/-- C07 end to end on `hamlet/a,s/*`: the two returned uris are exactly the uris of the typed,
    query-free narrowings of the searches the expression denotes -/
theorem ex_c07_or (u : Str) :
    u ∈ sOrUris ↔ ∃ y x, Denotes demoCtx sOr y ∧ demoCtx.typeNarrow y = .ok x ∧ x.typed = true ∧
      '?' ∉ x.string ∧ x.uri = u := by
  obtain ⟨r, hr, hu⟩ := sOr_eval
  rw [← hu]
  exact C07.c07_unfold_uris demoCtx demo_confOk sOr sOr_ok r hr u

/-- in particular the expression does denote something (non-vacuity of `Denotes`) -/
theorem ex_c07_or_denotes : ∃ y, Denotes demoCtx sOr y :=
  let ⟨y, _, hd, _⟩ := (ex_c07_or _).1 (List.mem_cons_self : ['a','s','s','e','t','_','_','a','s','s','e','t','t','y','p','e',':','h','a','m','l','e','t','/','a','/','*'] ∈ sOrUris)
  ⟨y, hd⟩

theorem ex_c07_alias (u : Str) :
    u ∈ sAliasUris ↔ ∃ y x, Denotes demoCtx sAlias y ∧ demoCtx.typeNarrow y = .ok x ∧ x.typed = true ∧
      '?' ∉ x.string ∧ x.uri = u := by
  obtain ⟨r, hr, hu⟩ := sAlias_eval
  rw [← hu]
  exact C07.c07_unfold_uris demoCtx demo_confOk sAlias sAlias_ok r hr u

theorem ex_c07_stars (u : Str) :
    u ∈ sStarsUris ↔ ∃ y x, Denotes demoCtx sStars y ∧ demoCtx.typeNarrow y = .ok x ∧ x.typed = true ∧
      '?' ∉ x.string ∧ x.uri = u := by
  obtain ⟨r, hr, hu⟩ := sStars_eval
  rw [← hu]
  exact C07.c07_unfold_uris demoCtx demo_confOk sStars sStars_ok r hr u

/-- the malformed expression is recognised as such by the declarative reading;
    `ex_c07_malformed_error` derives from it the SpilException the kernel computed (`sTwo_eval`) -/
theorem ex_c07_malformed : Malformed demoCtx sTwo := by
  have hsp : Str.splitOn '/' sTwo = [['h','a','m','l','e','t'], ['*','*'], ['*','*']] := by decide +kernel
  refine ⟨sTwo, ⟨[['h','a','m','l','e','t'], ['*','*']], ['*','*'], ?_, ?_, ?_⟩, Or.inl (by decide +kernel)⟩
  · rw [hsp]
    exact Choice.cons (by decide +kernel) (Choice.cons (by decide +kernel) Choice.nil)
  · rw [hsp]; decide +kernel
  · decide +kernel

theorem ex_c07_malformed_error : demoCtx.unfoldSearch sTwo false false = .error .spil :=
  (DenL.unfold_spec demoCtx demo_confOk sTwo sTwo_ok).malformed ex_c07_malformed

theorem ex_c07_nodup : ∀ r, demoCtx.unfoldSearch sOr false false = .ok r → r.Pairwise (fun a b => a.uri ≠ b.uri) :=
  fun r h => C07.c07_unfold_nodup demoCtx sOr r h

theorem sOr_alts : altsOf (segAt sOr 1) = [['a'], ['s']] := by decide +kernel
theorem sOr_setA : setSeg sOr 1 ['a'] = sOrA := by decide +kernel
theorem sOr_setS : setSeg sOr 1 ['s'] = sOrS := by decide +kernel

/-- C10 (or) on `hamlet/a,s/*`, segment 1 = "a,s": the Sids are the union of those of
    `hamlet/a/*` and `hamlet/s/*` -/
theorem ex_c10_or (u : Str) : u ∈ sOrUris ↔ (u ∈ sOrAUris ∨ u ∈ sOrSUris) := by
  obtain ⟨r, hr, hu⟩ := sOr_eval
  obtain ⟨ra, hra, hua⟩ := sOrA_eval
  obtain ⟨rs, hrs, hus⟩ := sOrS_eval
  have hA := sOr_setA
  have hS := sOr_setS
  rw [← hu, (C10.c10_or demoCtx demo_confOk sOr sOr_ok 1 (by decide +kernel) r hr).2 u, sOr_alts]
  constructor
  · rintro ⟨alt, halt, r', hr', hm⟩
    simp only [List.mem_cons, List.not_mem_nil, or_false] at halt
    rcases halt with rfl | rfl
    · rw [hA, hra] at hr'; cases hr'; exact Or.inl (hua ▸ hm)
    · rw [hS, hrs] at hr'; cases hr'; exact Or.inr (hus ▸ hm)
  · rintro (h | h)
    · exact ⟨['a'], by simp, ra, by rw [hA]; exact hra, hua ▸ h⟩
    · exact ⟨['s'], by simp, rs, by rw [hS]; exact hrs, hus ▸ h⟩

/-- C10 (alias) on `…/w/maya`: the same Sids as `…/w/ma,mb` -/
theorem ex_c10_alias (u : Str) : u ∈ sAliasUris ↔ u ∈ sAliasExpUris := by
  obtain ⟨r, hr, hu⟩ := sAlias_eval
  obtain ⟨re, hre, hue⟩ := sAliasExp_eval
  have hl : demoCtx.cfg.sid.extensionAlias.lookup (DenL.lastSeg sAlias) = some [['m','a'], ['m','b']] := by
    decide +kernel
  have hE : setSeg sAlias (DenL.lastIdx sAlias) (Str.joinWith ',' [['m','a'], ['m','b']]) = sAliasExp := by
    decide +kernel
  obtain ⟨r', hr', hiff⟩ := C10.c10_alias demoCtx demo_confOk demo_aliasFlat sAlias sAlias_ok _
    (by decide +kernel) hl r hr
  rw [hE, hre] at hr'
  cases hr'
  rw [← hu, ← hue]
  exact hiff u

end C07Ex
