/-
  Spil.Props.C12b — "children() equal the set of existing Sids whose parent is the Sid" (C12), for
  levels served from the file system.  `sid.children()` is `FindInAll().find(sid / '*')`: the
  routing of FindInAll (`C11.c11_all_paths_dedup`), the exact characterisation of the path star
  search (`C11.c11_star_list_mem`), the glob relation of C08 read on the search
  `<string of the Sid>/*` (`glob_child`) and completeness of the rendered glob pattern
  (`C11.c11_complete`), composed.
-/
import Spil.Props.C11b
import Spil.Props.C11c

namespace C12

open Spec C11 GlobL World

variable (d : DCtx)

/-! ### the search `<literal>/*` -/

theorem glob_child (a y : Str) (ha : ∀ ch ∈ a, ch ≠ '*' ∧ ch ≠ '?' ∧ ch ≠ '[') :
    Glob (a ++ ['/', '*']) y ↔ ∃ seg, '/' ∉ seg ∧ y = a ++ '/' :: seg :=
  glob_literal_slash_star a y ha

theorem wholeStar_child (a : Str) (ha : ∀ ch ∈ a, ch ≠ '*' ∧ ch ≠ '?' ∧ ch ≠ '[') : wholeStar (a ++ ['/', '*']) := by
  intro seg hseg
  rw [Str.splitOn_append '/' a ['*']] at hseg
  rcases List.mem_append.1 hseg with h | h
  · right
    exact ⟨fun hm => (ha _ (Str.mem_of_mem_splitOn '/' a seg '*' h hm)).1 rfl,
           fun hm => (ha _ (Str.mem_of_mem_splitOn '/' a seg '?' h hm)).2.1 rfl⟩
  · left
    have : Str.splitOn '/' ['*'] = [['*']] := by decide
    rw [this] at h
    simpa using h

/-! ### children() -/

/-- the hypotheses under which `x.children()` is served by the path Finder of configuration
    `config`: `x` is not a leaf, `x / '*'` is the Sid `s`, its string unfolds into the typed searches
    `searches` (none with '>'), all routed to the path Finder number `i`; each typed search has a
    path pattern or none (`hsp`), no `[` (known finding K2), and `Sid(path=…)` raises on no node of the
    tree (property C06: `C11.c11_total_of_wf`). -/
structure ChildrenServed (w : World) (x s : Sid) (searches : List Sid) (i : Nat) (config : Option Str) : Prop where
  not_leaf : d.ctx.isLeaf x = false
  div : d.ctx.div x ['*'] = .ok s
  unfold : d.ctx.unfoldSearch s.string false false = .ok searches
  routed : ∀ s' ∈ searches, d.finderFor s' = some i
  finder : d.data.finders[i]? = some (.paths config)
  no_gt : ∀ s' ∈ searches, Str.hasChar '>' s'.string = false
  has_path : ∀ s' ∈ searches, ∃ po, d.ctx.sidPath config s' = .ok po
  no_bracket : ∀ s' ∈ searches, '[' ∉ s'.string
  total : ∀ p ∈ w.nodes.map (·.1), ∃ y, d.ctx.sidOfPath p config = .ok y

theorem findInAll_paths_star (w : World) (str : Str) (searches : List Sid) (i : Nat) (config : Option Str)
    (hu : d.ctx.unfoldSearch str false false = .ok searches)
    (hr : ∀ s' ∈ searches, d.finderFor s' = some i)
    (hi : d.data.finders[i]? = some (.paths config))
    (hgt : ∀ s' ∈ searches, Str.hasChar '>' s'.string = false)
    (hsp : ∀ s' ∈ searches, ∃ po, d.ctx.sidPath config s' = .ok po)
    (hgm : ∀ s' ∈ searches, '[' ∉ s'.string)
    (htot : ∀ p ∈ w.nodes.map (·.1), ∃ y, d.ctx.sidOfPath p config = .ok y) :
    ∃ r, d.findInAll w str = .ok r ∧ r.Nodup ∧
      ∀ y, y ∈ r ↔ ∃ s' ∈ searches, ∃ p ∈ w.glob (patOf d config s'), ∃ e,
        d.ctx.sidOfPath p config = .ok e ∧ e.typed = true ∧ e.type = s'.type ∧
        Find.globMatch d.ctx.env s'.string e.string = .ok true ∧ e.string = y := by
  obtain ⟨rs, hrs, _, hmem⟩ := c11_star_list_mem d w config searches hsp hgm htot
  have hall := c11_all_paths_dedup d w str searches i config hu hr hi
  rw [AllL.pathsDoFind_star d w config searches rs hgt hrs] at hall
  refine ⟨Lst.dedupBy (· == ·) (rs.map (·.string)), by rw [hall]; rfl, Lst.dedupBy_nodup _, fun y => ?_⟩
  rw [Lst.mem_dedupBy, List.mem_map]
  constructor
  · rintro ⟨e, he, rfl⟩
    obtain ⟨s', hs', p, hp, h1, h2, h3, h4⟩ := (hmem e).1 he
    exact ⟨s', hs', p, hp, e, h1, h2, h3, h4, rfl⟩
  · rintro ⟨s', hs', p, hp, e, h1, h2, h3, h4, rfl⟩
    exact ⟨e, (hmem e).2 ⟨s', hs', p, hp, h1, h2, h3, h4⟩, rfl⟩

/-- `x.children()` succeeds and returns exactly the strings of the typed
    Sids built from the existing paths that the glob pattern of one of the typed searches globs, of
    that search's type, whose string the search string matches. -/
theorem c12_children_char (w : World) (x s : Sid) (searches : List Sid) (i : Nat) (config : Option Str)
    (h : ChildrenServed d w x s searches i config) :
    ∃ r, d.children w x = .ok r ∧ r.Nodup ∧
      ∀ y, y ∈ r ↔ ∃ s' ∈ searches, ∃ p ∈ w.glob (patOf d config s'), ∃ e,
        d.ctx.sidOfPath p config = .ok e ∧ e.typed = true ∧ e.type = s'.type ∧
        Find.globMatch d.ctx.env s'.string e.string = .ok true ∧ e.string = y := by
  obtain ⟨hleaf, hdiv, hu, hr, hi, hgt, hsp, hgm, htot⟩ := h
  have hch : d.children w x = d.findInAll w s.string := by
    unfold DCtx.children
    rw [hleaf, hdiv]
    rfl
  rw [hch]
  exact findInAll_paths_star d w s.string searches i config hu hr hi hgt hsp hgm htot

/-- `x.siblings_as(key)` (and `siblings()` for `key = keytype`): `FindInAll().find` of `x.get_as(key)` with
    the value of `key` starred — the same characterisation, for the typed searches of THAT search -/
theorem c12_siblings_char (w : World) (x a s : Sid) (key : Str) (searches : List Sid) (i : Nat) (config : Option Str)
    (hk : x.fields.hasKey key = true)
    (hga : d.ctx.getAs x key = .ok a)
    (hgw : d.ctx.getWithKw a [(key, some ['*'])] = .ok s)
    (hu : d.ctx.unfoldSearch s.string false false = .ok searches)
    (hr : ∀ s' ∈ searches, d.finderFor s' = some i)
    (hi : d.data.finders[i]? = some (.paths config))
    (hgt : ∀ s' ∈ searches, Str.hasChar '>' s'.string = false)
    (hsp : ∀ s' ∈ searches, ∃ po, d.ctx.sidPath config s' = .ok po)
    (hgm : ∀ s' ∈ searches, '[' ∉ s'.string)
    (htot : ∀ p ∈ w.nodes.map (·.1), ∃ y, d.ctx.sidOfPath p config = .ok y) :
    ∃ r, d.siblingsAs w x key = .ok r ∧ r.Nodup ∧
      ∀ y, y ∈ r ↔ ∃ s' ∈ searches, ∃ p ∈ w.glob (patOf d config s'), ∃ e,
        d.ctx.sidOfPath p config = .ok e ∧ e.typed = true ∧ e.type = s'.type ∧
        Find.globMatch d.ctx.env s'.string e.string = .ok true ∧ e.string = y := by
  have hsb : d.siblingsAs w x key = d.findInAll w s.string := by
    unfold DCtx.siblingsAs
    rw [hk, hga]
    simp only [Bool.not_true, Bool.false_eq_true, if_false, hgw]
  rw [hsb]
  exact findInAll_paths_star d w s.string searches i config hu hr hi hgt hsp hgm htot

/-- nothing is listed twice -/
theorem c12_children_nodup (w : World) (x s : Sid) (searches : List Sid) (i : Nat) (config : Option Str)
    (h : ChildrenServed d w x s searches i config) (r : List Str) (hr : d.children w x = .ok r) : r.Nodup := by
  obtain ⟨r', hr', hn, _⟩ := c12_children_char d w x s searches i config h
  rw [hr'] at hr
  cases hr
  exact hn

/-- When the typed searches carry the string `<x.string>/*` (no alias, no ',' list, no '**' in it:
    `C07.c07_unfold_strings`) and `x.string` is wildcard-free, every string `x.children()` returns
    is `x.string` plus exactly ONE further segment, and is the string of a typed Sid that owns an
    existing path. -/
theorem c12_children_parent (w : World) (x s : Sid) (searches : List Sid) (i : Nat) (config : Option Str)
    (h : ChildrenServed d w x s searches i config)
    (hstr : ∀ s' ∈ searches, s'.string = x.string ++ ['/', '*'])
    (hlit : ∀ ch ∈ x.string, ch ≠ '*' ∧ ch ≠ '?' ∧ ch ≠ '[')
    (r : List Str) (hr : d.children w x = .ok r) :
    ∀ y ∈ r, (∃ seg, '/' ∉ seg ∧ y = x.string ++ '/' :: seg) ∧
      ∃ p e, p ∈ w.nodes.map (·.1) ∧ d.ctx.sidOfPath p config = .ok e ∧ e.typed = true ∧ e.string = y := by
  obtain ⟨r', hr', _, hmem⟩ := c12_children_char d w x s searches i config h
  rw [hr'] at hr
  cases hr
  intro y hy
  obtain ⟨s', hs', p, hp, e, h1, h2, _, h4, rfl⟩ := (hmem y).1 hy
  have hb : '[' ∉ s'.string := h.no_bracket s' hs'
  have hg : Glob s'.string e.string := (c11_globMatch_iff _ _ _ hb).1 h4
  rw [hstr s' hs'] at hg
  exact ⟨(glob_child x.string e.string hlit).1 hg, p, e, (GlobL.glob_of_mem_glob w _ p hp).1, h1, h2, rfl⟩

/-- `e` is an existing entity: its path `p` is a node of the tree and round-trips
    (`Sid(path=p) = e`, property C05); it is of the type of one of the typed searches `s'`, and its
    string is `x.string` plus one segment.  Then `x.children()` lists it.
    (`hws`, `hwe`: both are well typed; `hvals`, `hfix`, `hb`: the admissibility conditions of C11's
    completeness theorem on mapped values and on '[' in the rendered pattern.) -/
theorem c12_children_complete (w : World) (x s : Sid) (searches : List Sid) (i : Nat) (config : Option Str)
    (h : ChildrenServed d w x s searches i config)
    (hstr : ∀ s' ∈ searches, s'.string = x.string ++ ['/', '*'])
    (hlit : ∀ ch ∈ x.string, ch ≠ '*' ∧ ch ≠ '?' ∧ ch ≠ '[')
    (s' e : Sid) (pat p seg : Str) (hs' : s' ∈ searches)
    (hpat : d.ctx.sidPath config s' = .ok (some pat))
    (hws : wellTyped d.ctx.env d.ctx.cfg.sid.templates s')
    (hwe : wellTyped d.ctx.env d.ctx.cfg.sid.templates e)
    (hex : w.pathExists p = true) (hrt : d.ctx.sidOfPath p config = .ok e) (hty : e.typed = true)
    (hte : s'.type = e.type)
    (hseg : '/' ∉ seg) (hes : e.string = x.string ++ '/' :: seg)
    (hfix : ∀ pc, d.ctx.cfg.pathConf? config = some pc → starFixed pc = true)
    (hvals : entityValsOk d.ctx config e = true) (hb : '[' ∉ pat)
    (r : List Str) (hr : d.children w x = .ok r) : e.string ∈ r := by
  obtain ⟨r', hr', _, hmem⟩ := c12_children_char d w x s searches i config h
  rw [hr'] at hr
  cases hr
  have hbs : '[' ∉ s'.string := h.no_bracket s' hs'
  have hg : Glob s'.string e.string := by
    rw [hstr s' hs']
    exact (glob_child x.string e.string hlit).2 ⟨seg, hseg, hes⟩
  have hw : wholeStar s'.string := by
    rw [hstr s' hs']
    exact wholeStar_child x.string hlit
  have hsg : SidGlob s' e := c11_fields_glob d.ctx.env d.ctx.cfg.sid.templates s' e hws hwe hte hw hbs hg
  obtain ⟨rs, hrs, _, hm1⟩ := c11_star_one d w config s' pat hpat hbs h.total
  have hin : e ∈ rs := c11_complete d w config s' e pat p rs hpat hws hwe hbs hex hrt hty hsg hfix hvals hb h.total hrs
  obtain ⟨p', hp', h1, h2, h3, h4⟩ := (hm1 e).1 hin
  refine (hmem e.string).2 ⟨s', hs', p', ?_, e, h1, h2, h3, h4, rfl⟩
  rw [patOf_some d config s' pat hpat]
  exact hp'

end C12
