/-
  Spil.Props.C10c — the algebra of the search syntax at the level of glob patterns and list scans:
  the union rule (`c10_union`), and the (literal) rule at full strength:
  "replacing a '*' by a literal value returns the SUBSET HAVING THAT VALUE" (`c10_literal` is ⊆).
-/
import Spil.Props.C08
import Spil.Lemmas.Str

namespace C10

open Spec Find

theorem glob_append (a q s : Str) :
    Glob (a ++ q) s ↔ ∃ x y, s = x ++ y ∧ Glob a x ∧ Glob q y := Spec.glob_append a q s

/-- a match of `a*b`: a match of `a`, a '/'-free part taken by the star, a match of `b` -/
theorem c10_star_decomp (a b item : Str) :
    Glob (a ++ '*' :: b) item ↔
      ∃ x w y, item = x ++ w ++ y ∧ '/' ∉ w ∧ Glob a x ∧ Glob b y := by
  rw [glob_append]
  constructor
  · rintro ⟨x, z, rfl, hx, hz⟩
    obtain ⟨w, y, rfl, hw, hy⟩ := (glob_append ['*'] b z).1 hz
    exact ⟨x, w, y, by simp, (Spec.glob_star_only w).1 hw, hx, hy⟩
  · rintro ⟨x, w, y, rfl, hw, hx, hy⟩
    exact ⟨x, w ++ y, by simp, hx, (glob_append ['*'] b _).2 ⟨w, y, rfl, (Spec.glob_star_only w).2 hw, hy⟩⟩

/-- a match of `a v b` for a literal `v`: a match of `a`, then `v` itself, then a match of `b` -/
theorem c10_literal_decomp (a b v item : Str)
    (hv : ∀ ch ∈ v, ch ≠ '/' ∧ ch ≠ '*' ∧ ch ≠ '?' ∧ ch ≠ '[') :
    Glob (a ++ v ++ b) item ↔ ∃ x y, item = x ++ v ++ y ∧ Glob a x ∧ Glob b y := by
  have hlit : ∀ w, Glob v w ↔ w = v := fun w => glob_literal_of_chars v w (fun ch hc => (hv ch hc).2)
  rw [List.append_assoc, glob_append]
  constructor
  · rintro ⟨x, z, rfl, hx, hz⟩
    obtain ⟨w, y, rfl, hw, hy⟩ := (glob_append v b z).1 hz
    rw [(hlit w).1 hw]
    exact ⟨x, y, by simp, hx, hy⟩
  · rintro ⟨x, y, rfl, hx, hy⟩
    exact ⟨x, v ++ y, by simp, hx, (glob_append v b _).2 ⟨v, y, rfl, (hlit v).2 rfl, hy⟩⟩

-- `ha`, `hb` (whole-segment position) are kept for the reading of the rule; the proof does not need them
set_option linter.unusedVariables false in
/-- literal rule, ⊆ half: what the pattern with the literal `v` matches, the pattern with '*' at
    that place matches (the exact form is `c10_literal_exact`) -/
theorem c10_literal (a b v item : Str) (hv : ∀ ch ∈ v, ch ≠ '/' ∧ ch ≠ '*' ∧ ch ≠ '?' ∧ ch ≠ '[')
    (ha : a = [] ∨ a.getLast? = some '/') (hb : b = [] ∨ b.head? = some '/') :
    Glob (a ++ v ++ b) item →
    Glob (a ++ '*' :: b) item := by
  intro h
  obtain ⟨x, y, rfl, hx, hy⟩ := (c10_literal_decomp a b v item hv).1 h
  exact (c10_star_decomp a b _).2 ⟨x, v, y, rfl, fun hm => (hv _ hm).1 rfl, hx, hy⟩

/-- (literal), exact: the items the literal pattern matches are exactly the items the star pattern
    matches IN A WAY that gives the star the value `v` — "the subset having that value". -/
theorem c10_literal_exact (a b v item : Str)
    (hv : ∀ ch ∈ v, ch ≠ '/' ∧ ch ≠ '*' ∧ ch ≠ '?' ∧ ch ≠ '[') :
    Glob (a ++ v ++ b) item ↔
      ∃ x w y, item = x ++ w ++ y ∧ '/' ∉ w ∧ Glob a x ∧ Glob b y ∧ w = v := by
  rw [c10_literal_decomp a b v item hv]
  constructor
  · rintro ⟨x, y, rfl, hx, hy⟩
    exact ⟨x, v, y, rfl, fun h => (hv _ h).1 rfl, hx, hy, rfl⟩
  · rintro ⟨x, w, y, rfl, _, hx, hy, rfl⟩
    exact ⟨x, y, rfl, hx, hy⟩

/-- (literal) on star searches over ANY list: the literal search finds exactly the entries that the
    star search finds and that decompose with the starred part equal to `v`; no duplicates. -/
theorem c10_literal_list_exact (e : Env) (l : List Str) (a b v : Str)
    (hv : ∀ ch ∈ v, ch ≠ '/' ∧ ch ≠ '*' ∧ ch ≠ '?' ∧ ch ≠ '[')
    (hbr : '[' ∉ a ++ '*' :: b)
    (r r' : List Str) (h : starSearch e ⟨l, false⟩ [a ++ '*' :: b] = .ok r)
    (h' : starSearch e ⟨l, false⟩ [a ++ v ++ b] = .ok r') :
    r'.Nodup ∧ ∀ item, item ∈ r' ↔
      (item ∈ r ∧ ∃ x y, item = x ++ v ++ y ∧ Glob a x ∧ Glob b y) := by
  have hbr' : '[' ∉ a ++ v ++ b := by
    simp only [List.mem_append, List.mem_cons, not_or] at hbr ⊢
    exact ⟨⟨hbr.1, fun hm => (hv _ hm).2.2.2 rfl⟩, hbr.2.2⟩
  have m := C08.c08_star_search_one e l _ hbr r h
  have m' := C08.c08_star_search_one e l _ hbr' r' h'
  refine ⟨m'.1, fun item => ?_⟩
  rw [m'.2 item, m.2 item, c10_literal_decomp a b v item hv]
  constructor
  · rintro ⟨hx, x, y, rfl, hgx, hgy⟩
    exact ⟨⟨hx, (c10_star_decomp a b _).2 ⟨x, v, y, rfl, fun hm => (hv _ hm).1 rfl, hgx, hgy⟩⟩,
      x, y, rfl, hgx, hgy⟩
  · rintro ⟨⟨hx, _⟩, hd⟩
    exact ⟨hx, hd⟩

/-- union rule at pattern level: searching with two lists of patterns finds exactly what either finds -/
theorem c10_union (e : Env) (l : List Str) (p₁ p₂ : List Str) (hb : ∀ p ∈ p₁ ++ p₂, '[' ∉ p)
    (r r₁ r₂ : List Str) (h : starSearch e ⟨l, false⟩ (p₁ ++ p₂) = .ok r)
    (h₁ : starSearch e ⟨l, false⟩ p₁ = .ok r₁) (h₂ : starSearch e ⟨l, false⟩ p₂ = .ok r₂) :
    ∀ x, x ∈ r ↔ (x ∈ r₁ ∨ x ∈ r₂) := by
  intro x
  have m := (C08.c08_star_search_mem e l (p₁ ++ p₂) hb r h).2 x
  have m₁ := (C08.c08_star_search_mem e l p₁ (fun p hp => hb p (by simp [hp])) r₁ h₁).2 x
  have m₂ := (C08.c08_star_search_mem e l p₂ (fun p hp => hb p (by simp [hp])) r₂ h₂).2 x
  rw [m, m₁, m₂]
  constructor
  · rintro ⟨hx, p, hp, hg⟩
    rcases List.mem_append.1 hp with hp | hp
    · exact Or.inl ⟨hx, p, hp, hg⟩
    · exact Or.inr ⟨hx, p, hp, hg⟩
  · rintro (⟨hx, p, hp, hg⟩ | ⟨hx, p, hp, hg⟩)
    · exact ⟨hx, p, List.mem_append.2 (Or.inl hp), hg⟩
    · exact ⟨hx, p, List.mem_append.2 (Or.inr hp), hg⟩

/-- results of a star search never contain duplicates: no rule of the algebra has to mention
    multiplicities -/
theorem c10_nodup (e : Env) (l : List Str) (pats : List Str) (hb : ∀ p ∈ pats, '[' ∉ p)
    (r : List Str) (hr : starSearch e ⟨l, false⟩ pats = .ok r) : r.Nodup :=
  (C08.c08_star_search_mem e l pats hb r hr).1

/-- the value of a whole-segment literal IS a segment of every item the literal pattern matches
    (`ha`, `hb`: the replaced '*' was a whole segment): "the subset HAVING THAT VALUE" read on the
    item's own '/'-split -/
theorem c10_literal_segment (a b v item : Str)
    (hv : ∀ ch ∈ v, ch ≠ '/' ∧ ch ≠ '*' ∧ ch ≠ '?' ∧ ch ≠ '[')
    (ha : a = [] ∨ ∃ a', a = a' ++ ['/']) (hb : b = [] ∨ ∃ b', b = '/' :: b')
    (h : Glob (a ++ v ++ b) item) : v ∈ Str.splitOn '/' item := by
  obtain ⟨x, y, rfl, hx, hy⟩ := (c10_literal_decomp a b v item hv).1 h
  have hvs : '/' ∉ v := fun hm => (hv _ hm).1 rfl
  -- the part after the value: empty or starting with '/'
  have hright : v ∈ Str.splitOn '/' (v ++ y) := by
    rcases hb with rfl | ⟨b', rfl⟩
    · rw [(glob_nil y).1 hy, List.append_nil, Str.splitOn_of_not_mem '/' v hvs]
      exact List.mem_singleton.2 rfl
    · obtain ⟨y', rfl, _⟩ := (glob_lit_cons '/' b' y (by decide) (by decide) (by decide)).1 hy
      rw [Str.splitOn_append_sep '/' v y' hvs]
      exact List.mem_cons_self
  rcases ha with rfl | ⟨a', rfl⟩
  · rw [(glob_nil x).1 hx]
    simpa using hright
  · obtain ⟨x1, x2, rfl, _, hx2⟩ := (glob_append a' ['/'] x).1 hx
    have : x2 = ['/'] := (C08.c08_literal ['/'] x2 (by decide) (by decide) (by decide)).1 hx2
    subst this
    have e : x1 ++ ['/'] ++ v ++ y = x1 ++ '/' :: (v ++ y) := by simp
    rw [e, Str.splitOn_append]
    exact List.mem_append_right _ hright

/-- non-vacuity: a concrete item, pattern and literal meeting the hypotheses, on both sides -/
example : Glob ("hamlet/a/".toList ++ "char".toList ++ "/*".toList) "hamlet/a/char/ophelia".toList :=
  (c10_literal_decomp "hamlet/a/".toList "/*".toList "char".toList _ (by decide)).2
    ⟨"hamlet/a/".toList, "/ophelia".toList, by decide,
      (C08.c08_literal _ _ (by decide) (by decide) (by decide)).2 rfl,
      .lit (by decide) (by decide) (by decide) ((Spec.glob_star_only _).2 (by decide))⟩

end C10
