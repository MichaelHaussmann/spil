/-
  Spil.Props.C19 — "Template extrapolation gives every level of every hierarchy one well-named type".

  Theorems about the model of `spil.conf.util.extrapolate_templates` / `pattern_replacing`
  (`ConfUtil.extrapolateTemplates`, `ConfUtil.patternReplacing`), for EVERY template table with
  distinct type names, every list of types to extrapolate and every separator.
-/
import Spil.Model.Conf
import Spil.Lemmas.ConfUtil

namespace C19

open ConfUtil

def names (l : List (Str × Str)) : List Str := l.map (·.1)
def tpls (l : List (Str × Str)) : List Str := l.map (·.2)

/-- every explicitly configured type survives with its template and relative order -/
theorem c19_keeps (sep : Str) (ts : List (Str × Str)) (ex : List Str) (hd : (names ts).Nodup) :
    (extrapolateTemplates sep ts ex).filter (fun p => (names ts).contains p.1) = ts := by
  obtain ⟨blocks, hg⟩ := extrapolateTemplates_spec sep ts ex hd
  rw [hg.eq, List.nil_append]
  exact filter_interleave _ ts blocks hg.len (fun pb hpb => names_of_interleave sep ts ex blocks hg pb hpb)

/-- no duplicate type names in the result -/
theorem c19_nodup_names (sep : Str) (ts : List (Str × Str)) (ex : List Str) (hd : (names ts).Nodup) :
    (names (extrapolateTemplates sep ts ex)).Nodup := by
  obtain ⟨blocks, hg⟩ := extrapolateTemplates_spec sep ts ex hd
  exact hg.ndN

/-- the added entries carry pairwise distinct templates, none of which is an explicit template -/
theorem c19_nodup_templates (sep : Str) (ts : List (Str × Str)) (ex : List Str) (hd : (names ts).Nodup) :
    let added := (extrapolateTemplates sep ts ex).filter (fun p => !(names ts).contains p.1)
    (tpls added).Nodup ∧ ∀ p ∈ added, p.2 ∉ tpls ts := by
  obtain ⟨blocks, hg⟩ := extrapolateTemplates_spec sep ts ex hd
  refine ⟨hg.ndT, ?_⟩
  intro p hp
  obtain ⟨hp1, hp2⟩ := List.mem_filter.1 hp
  rw [hg.eq, List.nil_append] at hp1
  obtain ⟨pb, hpb, h | h⟩ := mem_interleave hp1
  · have hm : pb.1 ∈ ts := (List.of_mem_zip hpb).1
    have : (names ts).contains p.1 = true :=
      List.contains_iff_mem.2 (List.mem_map.2 ⟨pb.1, hm, by rw [h]⟩)
    rw [this] at hp2; simp at hp2
  · exact (hg.blk pb hpb).freshT p h

/-- placement, origin, naming and order: the result is the explicit table with one block inserted
    directly after each entry; the block is empty unless the type is extrapolated; its templates
    are proper '/'-prefixes of the entry's template listed from longest to shortest (a sublist of
    `properPrefixes`), each named `prefixName`; nothing else is added. -/
theorem c19_blocks (sep : Str) (ts : List (Str × Str)) (ex : List Str) (hd : (names ts).Nodup) :
    ∃ blocks : List (List (Str × Str)), blocks.length = ts.length ∧
      extrapolateTemplates sep ts ex = (ts.zip blocks).flatMap (fun pb => pb.1 :: pb.2) ∧
      ∀ pb ∈ ts.zip blocks,
        (ex.contains pb.1.1 = false → pb.2 = []) ∧
        (tpls pb.2).Sublist (properPrefixes pb.1.2) ∧
        ∀ q ∈ pb.2, q.1 = prefixName sep pb.1.1 q.2 := by
  obtain ⟨blocks, hg⟩ := extrapolateTemplates_spec sep ts ex hd
  refine ⟨blocks, hg.len, by rw [hg.eq, List.nil_append], ?_⟩
  intro pb hpb
  exact ⟨(hg.blk pb hpb).nil, (hg.blk pb hpb).sub, (hg.blk pb hpb).name⟩

/-- completeness: every proper prefix of an extrapolated type's template is owned by some type of
    the result, unless the name it would get is taken -/
theorem c19_complete (sep : Str) (ts : List (Str × Str)) (ex : List Str) (hd : (names ts).Nodup)
    (ty t : Str) (hmem : (ty, t) ∈ ts) (hex : ty ∈ ex) (q : Str) (hq : q ∈ properPrefixes t) :
    q ∈ tpls (extrapolateTemplates sep ts ex) ∨
    prefixName sep ty q ∈ names (extrapolateTemplates sep ts ex) := by
  have hsub : ∀ x ∈ ts, x ∈ extrapolateTemplates sep ts ex := by
    intro x hx
    rw [← c19_keeps sep ts ex hd] at hx
    exact (List.mem_filter.1 hx).1
  obtain ⟨blocks, hg⟩ := extrapolateTemplates_spec sep ts ex hd
  exact (hg.compl (ty, t) hmem hex q hq).merge hsub

/-- pattern replacement keeps names and order -/
theorem c19_replace_names (ts : List (Str × Str)) (kp : List (Str × List (Str × Str))) :
    names (patternReplacing ts kp) = names ts := by
  rw [patternReplacing_eq]
  simp [names, List.map_map, Function.comp_def]

/-- pattern replacement leaves a template identical unless one of the selectors occurs in its type name -/
theorem c19_replace_scoped (ts : List (Str × Str)) (kp : List (Str × List (Str × Str)))
    (ty t : Str) (hmem : (ty, t) ∈ ts) (hsel : ∀ m ∈ kp.map (·.1), Str.isInfix m ty = false) :
    (ty, t) ∈ patternReplacing ts kp := by
  rw [patternReplacing_eq]
  refine List.mem_map.2 ⟨(ty, t), hmem, ?_⟩
  simp only [replaceForType_of_no_sel kp ty t hsel]

/-- positional form: each template is rewritten by the replacements of the matching selectors only -/
theorem c19_replace_pointwise (ts : List (Str × Str)) (kp : List (Str × List (Str × Str))) :
    patternReplacing ts kp =
      ts.map (fun p => (p.1, (kp.filter (fun m => Str.isInfix m.1 p.1)).foldl
        (fun t m => applyReplacements t m.2) p.2)) := by
  rw [patternReplacing_eq]
  exact List.map_congr_left (fun p _ => by rw [replaceForType_eq])

/-- non-vacuity / regression witness for the repaired naming (defect D12): extrapolating
    `shot__shot` names the prefixes after the basetype, not by rewriting it -/
example :
    names (extrapolateTemplates ['_','_']
      [(['s','h','o','t','_','_','s','h','o','t'],
        ['{','p','}','/','{','t',':','s','}','/','{','q','}','/','{','s','h','o','t','}'])]
      [['s','h','o','t','_','_','s','h','o','t']]) =
    [['s','h','o','t','_','_','s','h','o','t'], ['s','h','o','t','_','_','q'],
     ['s','h','o','t','_','_','t'], ['s','h','o','t','_','_','p']] := by decide

end C19
