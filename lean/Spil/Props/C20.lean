/-
  Spil.Props.C20 — "The guarantees hold for any well-formed configuration, not only the demo one".

  C20 is the FORM of the other theorems: each is restated here with the configuration universally
  quantified and the documented conventions (`Spec.sidHierOk`) as the only configuration
  hypothesis, and proved by instantiating the property theorems — none of which mentions the
  shipped configuration.  (The check proves `sidHierOk` in the kernel for configurations generated
  on every run.)
-/
import Spil.Props.C01
import Spil.Props.C02
import Spil.Props.C05
import Spil.Props.C07b
import Spil.Props.C08

namespace C20

open Spec

/-- typing (C01) for every configuration whose template table is well formed -/
theorem c20_typing : ∀ (c : Ctx), sidHierOk c.env c.cfg.sid.templates = true →
    ∀ s : Str, s ≠ [] → ':' ∉ s → '?' ∉ s →
      c.sidOfString s = .ok (plainSid c.env c.cfg.sid.templates s) := by
  intro c hwf s hne hc hq
  exact C01.c01_plain c (HierL.hier_table hwf) s hne hc hq

/-- round trip through the field dictionary in any order (C02) -/
theorem c20_forms : ∀ (c : Ctx), sidHierOk c.env c.cfg.sid.templates = true →
    ∀ x : Sid, natural c.env c.cfg.sid.templates x → renderable x.string →
      ∀ p : Dict, p.Perm x.fields → c.sidOfFields p = .ok x := by
  intro c hwf x hx hr p hp
  exact C02.c02_fields c x hwf hx hr p hp

/-- hierarchy navigation (C03) -/
theorem c20_hierarchy : ∀ (c : Ctx), sidHierOk c.env c.cfg.sid.templates = true →
    ∀ x : Sid, wellTyped c.env c.cfg.sid.templates x → ∀ i, i < x.fields.length →
      renderable (Str.joinWith '/' ((Str.splitOn '/' x.string).take (i + 1))) →
      ∃ y, c.getAs x (x.fields.map (·.1))[i]! = .ok y ∧ wellTyped c.env c.cfg.sid.templates y ∧
        y.fields = x.fields.take (i + 1) := by
  intro c hwf x hx i hi hr
  obtain ⟨y, h1, h2, h3, _⟩ := C03.c03_get_as c x hwf hx i hi hr
  exact ⟨y, h1, h2, h3⟩

/-- ownership of paths (C06) holds for every configuration, with no hypothesis at all -/
theorem c20_path_owner : ∀ (c : Ctx) (p : Str) (cfg : Option Str) (x : Sid),
    c.sidOfPath p cfg = .ok x → x.typed = true → c.sidPath cfg x = .ok (some p) :=
  fun c p cfg x h ht => C06.c06_owner c p cfg x h ht

/-- '**' completion (C07) -/
theorem c20_expand_errors : ∀ (c : Ctx), sidHierOk c.env c.cfg.sid.templates = true →
    ∀ s : Str, '?' ∉ s → ':' ∉ s → 1 ≤ Str.count s ['/', '*', '*'] →
      (∃ r, c.expand s false = .ok r) ∨ c.expand s false = .error .spil :=
  fun c hwf s hq hc h1 => C07.c07_expand_errors c hwf s hq hc h1

/-- list search (C08) does not depend on the configuration at all -/
theorem c20_glob : ∀ (e : Env) (pat item : Str), '[' ∉ pat → (globB e pat item = true ↔ Glob pat item) :=
  fun e pat item hb => C08.c08_glob2re e pat item hb

end C20
