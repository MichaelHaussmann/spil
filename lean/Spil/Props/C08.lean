/-
  Spil.Props.C08 — "Searching a list returns exactly the entries that glob-match the search"
  (the list-scan half; the unfolding half is C07) and
  Spil.Props.C09 list half — "The '>' operator returns the greatest entry of each group".
-/
import Spil.Spec.Find
import Spil.Lemmas.Find

namespace C08

open Spec Find

/-- `glob2re` + `re.match` decide exactly the glob relation of the statement, for every pattern
    without `[` and every item (any characters, any number of segments) -/
theorem c08_glob2re (e : Env) (pat item : Str) (hb : '[' ∉ pat) :
    globB e pat item = true ↔ Glob pat item :=
  globB_iff_glob e pat hb item

/-- a glob match forces the numbers of '/'-separated segments to agree -/
theorem c08_segments (pat item : Str) (h : Glob pat item) :
    (Str.splitOn '/' pat).length = (Str.splitOn '/' item).length :=
  h.comps.length_eq

/-- a pattern without wildcard characters matches exactly itself -/
theorem c08_literal (pat item : Str) (hs : '*' ∉ pat) (hq : '?' ∉ pat) (hb : '[' ∉ pat) :
    Glob pat item ↔ item = pat := glob_literal pat item hs hq hb

/-- `FindInList.star_search` (no strip): exactly the entries matching some pattern, each once,
    in order of first match (patterns outer, list inner) -/
theorem c08_star_search (e : Env) (l : List Str) (pats : List Str) (hb : ∀ p ∈ pats, '[' ∉ p) :
    starSearch e ⟨l, false⟩ pats =
      .ok (Lst.dedupBy (· == ·) (pats.flatMap (fun p => l.filter (fun x => globB e p x)))) := by
  rw [starSearch, starSearchGo_eq e l pats hb, fresh_nil_left]

theorem c08_star_search_mem (e : Env) (l : List Str) (pats : List Str) (hb : ∀ p ∈ pats, '[' ∉ p)
    (r : List Str) (hr : starSearch e ⟨l, false⟩ pats = .ok r) :
    r.Nodup ∧ ∀ x, x ∈ r ↔ (x ∈ l ∧ ∃ p ∈ pats, Glob p x) := by
  rw [c08_star_search e l pats hb] at hr
  injection hr with hr
  subst hr
  refine ⟨Lst.dedupBy_nodup _, fun x => ?_⟩
  rw [Lst.mem_dedupBy]
  simp only [List.mem_flatMap, List.mem_filter]
  constructor
  · rintro ⟨p, hp, hx, hg⟩
    exact ⟨hx, p, hp, (c08_glob2re e p x (hb p hp)).1 hg⟩
  · rintro ⟨hx, p, hp, hg⟩
    exact ⟨p, hp, hx, (c08_glob2re e p x (hb p hp)).2 hg⟩

theorem c08_star_search_one (e : Env) (l : List Str) (p : Str) (hb : '[' ∉ p)
    (r : List Str) (hr : starSearch e ⟨l, false⟩ [p] = .ok r) :
    r.Nodup ∧ ∀ x, x ∈ r ↔ (x ∈ l ∧ Glob p x) := by
  simpa using c08_star_search_mem e l [p] (List.forall_mem_singleton.2 hb) r hr

end C08

namespace C09

open Spec Find

/-- `sorted_search`'s selection: every pick is one of the found entries -/
theorem c09_pick_mem (index : Nat) (founds : List Str) :
    ∀ r ∈ sortedPick index founds, r ∈ founds :=
  fun r hr => ((mem_sortedPick index founds r).1 hr).1

/-- one pick per group, no duplicates -/
theorem c09_pick_unique (index : Nat) (founds : List Str) :
    (sortedPick index founds).Nodup ∧
    ∀ r₁ ∈ sortedPick index founds, ∀ r₂ ∈ sortedPick index founds,
      groupKey index r₁ = groupKey index r₂ → r₁ = r₂ :=
  ⟨sortedPick_nodup index founds, sortedPick_key_inj index founds⟩

/-- every found entry is represented by the pick of its group, and that pick is the greatest
    entry of the group when compared segment by segment as strings -/
theorem c09_pick_max (index : Nat) (founds : List Str) :
    ∀ x ∈ founds, ∃ r ∈ sortedPick index founds, groupKey index r = groupKey index x ∧ segGe r x :=
  sortedPick_repr index founds

/-- the selection depends only on the SET of found entries, hence not on how the expression
    was split into typed searches nor on which Finder collected them -/
theorem c09_pick_set (index : Nat) (f₁ f₂ : List Str) (h : ∀ x, x ∈ f₁ ↔ x ∈ f₂) :
    sortedPick index f₁ = sortedPick index f₂ :=
  sortedPick_congr index f₁ f₂ h

end C09
