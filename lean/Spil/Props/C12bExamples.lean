/-
  Spil.Props.C12bExamples — non-vacuity of C12b on the SHIPPED configuration: the tree obtained by creating
  "hamlet/a/char/ophelia/model/v001/w/ma" in the empty tree (the model's WriteToPaths creates every parent
  directory), the task Sid "hamlet/a/char/ophelia/model" and its children: every hypothesis of
  `ChildrenServed` discharged by the kernel, the theorems instantiated.
-/
import Spil.Props.C12b
import Spil.Props.C09bExamples

namespace C12Ex

open Spec Generated C11Ex C09Ex C12 C11

/-- "hamlet/a/char/ophelia/model" (asset__task) -/
def tk : Sid :=
  ⟨['h','a','m','l','e','t','/','a','/','c','h','a','r','/','o','p','h','e','l','i','a','/','m','o','d','e','l'],
    ['a','s','s','e','t','_','_','t','a','s','k'],
    [(['p','r','o','j','e','c','t'], ['h','a','m','l','e','t']),
     (['t','y','p','e'], ['a']),
     (['a','s','s','e','t','t','y','p','e'], ['c','h','a','r']),
     (['a','s','s','e','t'], ['o','p','h','e','l','i','a']),
     (['t','a','s','k'], ['m','o','d','e','l'])]⟩
/-- "hamlet/a/char/ophelia/model/*" (asset__version) -/
def tkStar : Sid :=
  ⟨['h','a','m','l','e','t','/','a','/','c','h','a','r','/','o','p','h','e','l','i','a','/','m','o','d','e','l','/','*'],
    ['a','s','s','e','t','_','_','v','e','r','s','i','o','n'],
    [(['p','r','o','j','e','c','t'], ['h','a','m','l','e','t']),
     (['t','y','p','e'], ['a']),
     (['a','s','s','e','t','t','y','p','e'], ['c','h','a','r']),
     (['a','s','s','e','t'], ['o','p','h','e','l','i','a']),
     (['t','a','s','k'], ['m','o','d','e','l']),
     (['v','e','r','s','i','o','n'], ['*'])]⟩
/-- "hamlet/a/char/ophelia/model/v001" (asset__version) -/
def v1 : Sid :=
  ⟨['h','a','m','l','e','t','/','a','/','c','h','a','r','/','o','p','h','e','l','i','a','/','m','o','d','e','l','/','v','0','0','1'],
    ['a','s','s','e','t','_','_','v','e','r','s','i','o','n'],
    [(['p','r','o','j','e','c','t'], ['h','a','m','l','e','t']),
     (['t','y','p','e'], ['a']),
     (['a','s','s','e','t','t','y','p','e'], ['c','h','a','r']),
     (['a','s','s','e','t'], ['o','p','h','e','l','i','a']),
     (['t','a','s','k'], ['m','o','d','e','l']),
     (['v','e','r','s','i','o','n'], ['v','0','0','1'])]⟩

/-- the tree after `create("hamlet/a/char/ophelia/model/v001/w/ma")` in the empty tree -/
def wC : World := match demoD.create ⟨[], []⟩ none o1.string none with | .ok (w, _) => w | .error _ => ⟨[], []⟩

theorem ex_created : (match demoD.create ⟨[], []⟩ none o1.string none with | .ok (_, b) => b | .error _ => false) = true := by
  decide +kernel

theorem ex_div : demoCtx.div tk ['*'] = .ok tkStar := okIs_eq _ _ (by decide +kernel)
theorem ex_unfold_c : demoCtx.unfoldSearch tkStar.string false false = .ok [tkStar] := okIs_eq _ _ (by decide +kernel)

/-- the glob pattern of the typed search, and the path of the version folder -/
def tkPat : Str := match demoCtx.sidPath none tkStar with | .ok (some p) => p | _ => []
def v1P : Str := match demoCtx.sidPath none v1 with | .ok (some p) => p | _ => []
theorem ex_tkpat : demoCtx.sidPath none tkStar = .ok (some tkPat) := okIs_eq _ _ (by decide +kernel)
theorem ex_v1p_exists : wC.pathExists v1P = true := by decide +kernel
theorem ex_v1_rt : demoCtx.sidOfPath v1P none = .ok v1 := okIs_eq _ _ (by decide +kernel)

/-- every hypothesis of `ChildrenServed` for the task Sid on that tree -/
theorem ex_served : ChildrenServed demoD wC tk tkStar [tkStar] 0 none where
  not_leaf := by decide +kernel
  div := ex_div
  unfold := ex_unfold_c
  routed := by decide +kernel
  finder := rfl
  no_gt := by decide +kernel
  has_path := List.forall_mem_singleton.2 ⟨_, ex_tkpat⟩
  no_bracket := by decide +kernel
  total := fun p _ => demo_total p

/-- `c12_children_char` / `c12_children_parent` / `c12_children_complete` instantiated: `children()` of the
    task succeeds, lists nothing twice, every listed string is the task's string plus one segment, and the
    existing version v001 is listed -/
theorem ex_children : ∃ r, demoD.children wC tk = .ok r ∧ r.Nodup ∧ v1.string ∈ r ∧
    ∀ y ∈ r, ∃ seg, '/' ∉ seg ∧ y = tk.string ++ '/' :: seg := by
  obtain ⟨r, hr, hn, _⟩ := c12_children_char demoD wC tk tkStar [tkStar] 0 none ex_served
  have hstr : ∀ s' ∈ [tkStar], s'.string = tk.string ++ ['/', '*'] := by decide +kernel
  have hlit : ∀ ch ∈ tk.string, ch ≠ '*' ∧ ch ≠ '?' ∧ ch ≠ '[' := by decide +kernel
  refine ⟨r, hr, hn, ?_, fun y hy => (c12_children_parent demoD wC tk tkStar [tkStar] 0 none ex_served hstr hlit r hr y hy).1⟩
  exact c12_children_complete demoD wC tk tkStar [tkStar] 0 none ex_served hstr hlit tkStar v1 tkPat v1P
    ['v','0','0','1'] (by simp) ex_tkpat (wellTyped_of_B _ _ _ (by decide +kernel)) (wellTyped_of_B _ _ _ (by decide +kernel))
    ex_v1p_exists ex_v1_rt (by decide) (by decide) (by decide) (by decide +kernel) demo_fix (by decide +kernel)
    (by decide +kernel) r hr

end C12Ex
