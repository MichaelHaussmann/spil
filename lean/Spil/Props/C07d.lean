/-
  Spil.Props.C07d — `type_narrow` for conventional narrowing tables (`narrowOk`: every configured
  query parses into non-empty values without '/', '?', line feed — e.g. the shipped `type=~a`), and
  the HEADLINE form of C07 end to end: for such configurations `unfold_search` is total on
  well-formed expressions, raises SpilException exactly on malformed ones, and returns exactly
  (as Sid values) the typed, query-free narrowings of the searches the expression denotes.
-/
import Spil.Spec.Denote
import Spil.Lemmas.DenoteOverlay
import Spil.Props.C07c

namespace C07

open Spec Ctx DenL

variable (c : Ctx)

/-- `c07_narrow`, one step: narrowing a canonically typed, query-free Sid `y` by a good query `q`
    (`sid.get_with(query=q)`) never fails and returns
    * the REFUSAL `y.string?q` with type and fields untouched (dropped later by `unfold_search`:
      "the Sid is dropped when the result fits no type"), or
    * a canonically typed Sid whose fields are the overlay: a key the query does not mention keeps
      its value; for `k=~v` the field `k` becomes `v` WHEN THE KEY EXISTS (and is not added
      otherwise); for `k=v` the field becomes `v`. -/
theorem c07_narrow (hwf : sidHierOk c.env c.cfg.sid.templates = true) (y : Sid)
    (hy : wellTyped c.env c.cfg.sid.templates y) (hnl : '\n' ∉ y.string) (hq : '?' ∉ y.string)
    (q : Str) (hqne : q ≠ []) (hok : narrowQueryOk q = true) :
    ∃ nd, Query.toDict q = .ok nd ∧ ∃ x, c.getWithQuery y q = .ok x ∧
      (x = ⟨y.string ++ '?' :: q, y.type, y.fields⟩ ∨
       (wellTyped c.env c.cfg.sid.templates x ∧ '?' ∉ x.string ∧
        ∀ k, x.fields.get k =
          match nd.get k with
          | none => y.fields.get k
          | some v =>
            if Str.startsWith v ['~'] then
              (if y.fields.hasKey k then some (v.filter (· != '~')) else none)
            else some v)) := by
  rw [getWithQuery_apply c hwf y hy hq q hqne]
  obtain ⟨nd, hnd, x, hx, hcase⟩ := applyQuery_good c hwf y ⟨hy, hnl, hq⟩ q hqne hok
  refine ⟨nd, hnd, x, hx, hcase.imp_right fun ⟨h1, h2⟩ => ⟨h1.typed, h1.noQuery, fun k => ?_⟩⟩
  · rw [h2 k]
    exact C04.c04_update y.fields nd (UpdL.toDict_nodup q nd hnd) k

/-- `type_narrow` is the basetyped step followed by the typed step (`Spec.narrowStep`,
    `narrowQ1`, `narrowQ2`) -/
theorem c07_narrow_steps (y : Sid) (hq : '?' ∉ y.string) (hty : y.type ≠ []) :
    (∀ e, narrowStep c y (narrowQ1 c y.type) = .error e → c.typeNarrow y = .error e) ∧
    (∀ x1, narrowStep c y (narrowQ1 c y.type) = .ok x1 →
      c.typeNarrow y = narrowStep c x1 (narrowQ2 c x1.type)) :=
  typeNarrow_eq c y hq hty ▸ ⟨fun e h => by rw [h]; rfl, fun x1 h => by rw [h]; rfl⟩

/-- for conventional narrowing tables `type_narrow` never fails on a canonically typed,
    query-free Sid, and returns a Sid that visibly carries an un-applied query or is canonically
    typed and query-free -/
theorem c07_narrow_total (hwf : sidHierOk c.env c.cfg.sid.templates = true)
    (hno : narrowOk c.cfg.sid = true) (y : Sid) (hy : wellTyped c.env c.cfg.sid.templates y)
    (hnl : '\n' ∉ y.string) (hq : '?' ∉ y.string) :
    ∃ x, c.typeNarrow y = .ok x ∧
      ('?' ∈ x.string ∨ (wellTyped c.env c.cfg.sid.templates x ∧ '?' ∉ x.string)) := by
  obtain ⟨x, hx, hg⟩ := typeNarrow_good c hwf hno y ⟨hy, hnl, hq⟩
  exact ⟨x, hx, hg.imp_right fun h => ⟨h.typed, h.noQuery⟩⟩

/-- what an expression denotes is canonically typed, query-free and line-feed-free -/
theorem c07_denotes_wellTyped (hC : ConfOk c) (s : Str) (hS : ExprOk c s) (hnl : NoNl c s)
    (y : Sid) (hd : Denotes c s y) :
    wellTyped c.env c.cfg.sid.templates y ∧ '\n' ∉ y.string ∧ '?' ∉ y.string := by
  obtain ⟨htab, _, _, _⟩ := HierL.hier_unpack _ _ hC.wf
  obtain ⟨a, hpa, hda⟩ := hd
  have hqa := picks_no_query c hC.alias s a hpa hS.noQuery
  have hna := hnl a hpa
  rcases hda with ⟨_, hne, p, hp, hacc, rfl⟩ | ⟨h1, lk, k, hlk, p, hp, _, hacc, rfl⟩
  · exact ⟨⟨p.2, SidL.tableOk_lookup htab hp, hne, hacc, rfl⟩, hna, hqa⟩
  · exact ⟨⟨p.2, SidL.tableOk_lookup htab hp,
        ExpL.fill_ne_nil a h1 (rootLeafKey_ne_nil hlk) k, hacc, rfl⟩,
      ExpL.not_mem_fill a h1 k '\n' (by decide) (by decide) hna,
      ExpL.not_mem_fill a h1 k '?' (by decide) (by decide) hqa⟩

/-- for conventional narrowing tables, narrowing is total and canonical on what an expression
    denotes: the hypotheses `NarrowCanon` of `c07_unfold_mem` and `hn` of `c07_unfold_ok` hold -/
theorem c07_narrow_canon (hC : ConfOk c) (hno : narrowOk c.cfg.sid = true) (s : Str)
    (hS : ExprOk c s) (hnl : NoNl c s) :
    NarrowCanon c s ∧ ∀ y, Denotes c s y → ∃ x, c.typeNarrow y = .ok x := by
  refine ⟨?_, ?_⟩
  · intro y x hd hyx _ hxq
    obtain ⟨hw, h1, h2⟩ := c07_denotes_wellTyped c hC s hS hnl y hd
    obtain ⟨x', hx', hg⟩ := c07_narrow_total c hC.wf hno y hw h1 h2
    rw [hyx] at hx'
    simp only [Except.ok.injEq] at hx'
    subst hx'
    rcases hg with h | h
    · exact absurd h hxq
    · exact h.1
  · intro y hd
    obtain ⟨hw, h1, h2⟩ := c07_denotes_wellTyped c hC s hS hnl y hd
    obtain ⟨x, hx, _⟩ := c07_narrow_total c hC.wf hno y hw h1 h2
    exact ⟨x, hx⟩

theorem c07_noNl (hal : aliasNoNl c.cfg.sid = true) (s : Str) (h : '\n' ∉ s) : NoNl c s := by
  intro a hpa hm
  rcases infix_picks c s a ['\n'] ⟨by simp, by decide, by decide⟩ hpa ((Str.singleton_infix _ _).2 hm) with
    h' | ⟨k, vs, v, hl, hv, hi⟩
  · exact h ((Str.singleton_infix _ _).1 h')
  · unfold aliasNoNl at hal
    rw [List.all_eq_true] at hal
    have := hal (k, vs) (Lst.lookup_mem _ _ _ hl)
    simp only [List.all_eq_true, Bool.not_eq_true', Str.hasChar_eq_false_iff] at this
    exact this v hv ((Str.singleton_infix _ _).1 hi)

/-- C07 END TO END (headline).  For a conventional configuration (`ConfOk`, `narrowOk`) and a
    query-free expression meeting `ExprOk`, `NoNl`:
    * a malformed expression (`Spec.Malformed`: two "/**" in one alternative, or a "/**" whose
      root has no leaf key) raises SpilException — and nothing else fails;
    * otherwise `unfold_search(s)` returns a list `r` without duplicates such that
      `x ∈ r` iff `x` is the typed, query-free narrowing of a typed search the syntax denotes. -/
theorem c07_unfold (hC : ConfOk c) (hno : narrowOk c.cfg.sid = true) (s : Str)
    (hS : ExprOk c s) (hnl : NoNl c s) :
    (Malformed c s ∧ c.unfoldSearch s false false = .error .spil) ∨
    (¬ Malformed c s ∧ ∃ r, c.unfoldSearch s false false = .ok r ∧
      (∀ x, x ∈ r ↔ ∃ y, Denotes c s y ∧ c.typeNarrow y = .ok x ∧ x.typed = true ∧ '?' ∉ x.string) ∧
      r.Pairwise (fun a b => a.uri ≠ b.uri) ∧ r.Nodup) := by
  obtain ⟨hcan, htot⟩ := c07_narrow_canon c hC hno s hS hnl
  have hsp := unfold_spec c hC s hS
  by_cases hmal : Malformed c s
  · exact Or.inl ⟨hmal, hsp.malformed hmal⟩
  · obtain ⟨r, hr⟩ := hsp.total hmal htot
    have hpw := c07_unfold_nodup c s r hr
    exact Or.inr ⟨hmal, r, hr, c07_unfold_mem c hC s hS hcan r hr, hpw,
      List.Pairwise.imp (fun h e => h (by rw [e])) hpw⟩

end C07
