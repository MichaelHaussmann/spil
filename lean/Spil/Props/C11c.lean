/-
  Spil.Props.C11c — C11, the FindInAll half: "FindInAll over its configured sources returns the
  same set of Sids for every search; levels that the configuration backs by constants are answered
  from those constants."  (1) Routing: `FindInAll.find` groups the unfolded searches by Finder and
  de-duplicates the concatenated answers; routed to one `FindInPaths(config)` it returns that
  Finder's set.  (2) Constants: `FindInConstants.star_search` for one search Sid, by where the '*'
  sits relative to the key; the set returned is "parents found × admitted constants".  (3) The
  fuel of the model is irrelevant under `DataConf.chainOk`.
-/
import Spil.Lemmas.AllSid
import Spil.Lemmas.AllFuel
import Spil.Props.C08

namespace C11

open Spec AllL

variable (d : DCtx)

/-! ### (1) routing -/

/-- how `FindInAll` groups the unfolded searches (`AllL.groupsOf`): one group per finder index, in
    first-seen order, holding ALL the searches routed to it in their original order; an unrouted
    search (`get_finder_for` gives `None`) lies in no group -/
theorem c11_groups_spec (searches : List Sid) :
    d.groupByFinder searches [] = groupsOf d searches ∧
    (groupsOf d searches).map (·.1) = Lst.dedupBy (· == ·) (searches.filterMap d.finderFor) ∧
    ((groupsOf d searches).map (·.1)).Nodup ∧
    (∀ g ∈ groupsOf d searches,
      g.2 = searches.filter (fun s => d.finderFor s == some g.1) ∧ g.2 ≠ []) ∧
    (∀ s ∈ searches, ∀ i, d.finderFor s = some i → ∃ g ∈ groupsOf d searches, g.1 = i ∧ s ∈ g.2) ∧
    (∀ s, d.finderFor s = none → ∀ g ∈ groupsOf d searches, s ∉ g.2) := by
  refine ⟨groupByFinder_eq d searches, groupsOf_keys_eq d searches, groupsOf_keys_nodup d searches,
    ?_, ?_, ?_⟩
  · intro g hg
    exact ⟨((mem_groupsOf d searches g).1 hg).2, groupsOf_ne_nil d searches g hg⟩
  · intro s hs i hi
    obtain ⟨h1, h2⟩ := groupsOf_cover d searches s i hs hi
    exact ⟨_, h1, rfl, h2⟩
  · intro s hs g hg
    exact groupsOf_unrouted d searches s hs g hg

/-- `FindInAll.find` is the de-duplicated concatenation, over the groups, of what the
    Finder of each group answers for its group -/
theorem c11_all_groups (w : World) (search : Str) (searches : List Sid)
    (hu : d.ctx.unfoldSearch search false false = .ok searches) :
    d.findInAll w search =
      (Ctx.flatMapE (fun (g : Nat × List Sid) => d.finderDoFind w d.fuel g.1 g.2)
        (groupsOf d searches)).map (Lst.dedupBy (· == ·)) :=
  findInAll_eq d w search searches hu

/-- membership: a string is returned iff the Finder of some group returns it for its group; the
    result has no duplicates; `FindInAll` fails iff the unfolding or some Finder fails -/
theorem c11_all_mem (w : World) (search : Str) (searches : List Sid)
    (hu : d.ctx.unfoldSearch search false false = .ok searches) :
    (∀ r, d.findInAll w search = .ok r → r.Nodup ∧
      ∀ x, x ∈ r ↔ ∃ g ∈ groupsOf d searches, ∃ ys,
        d.finderDoFind w d.fuel g.1 g.2 = .ok ys ∧ x ∈ ys) ∧
    ((∃ r, d.findInAll w search = .ok r) ↔
      ∀ g ∈ groupsOf d searches, ∃ ys, d.finderDoFind w d.fuel g.1 g.2 = .ok ys) := by
  rw [c11_all_groups d w search searches hu]
  constructor
  · intro r hr
    obtain ⟨all, hall, rfl⟩ := (Except.map_eq_ok _ _ _).1 hr
    refine ⟨Lst.dedupBy_nodup _, fun x => ?_⟩
    rw [Lst.mem_dedupBy, Ctx.flatMapE_mem _ _ _ hall]
  · rw [← Ctx.flatMapE_ok_iff]
    exact ⟨fun ⟨r, hr⟩ => let ⟨all, hall, _⟩ := (Except.map_eq_ok _ _ _).1 hr; ⟨all, hall⟩,
      fun ⟨all, hall⟩ => ⟨_, (Except.map_eq_ok _ _ _).2 ⟨all, hall, rfl⟩⟩⟩

/-- when every unfolded search is routed to one and the same
    `FindInPaths(config)`, `FindInAll.find` is `FindInPaths(config).do_find` of the unfolded
    searches, de-duplicated -/
theorem c11_all_paths_dedup (w : World) (search : Str) (searches : List Sid) (i : Nat)
    (config : Option Str)
    (hu : d.ctx.unfoldSearch search false false = .ok searches)
    (hr : ∀ s ∈ searches, d.finderFor s = some i)
    (hi : d.data.finders[i]? = some (.paths config)) :
    d.findInAll w search = (d.pathsDoFind w config searches).map (Lst.dedupBy (· == ·)) := by
  rw [findInAll_single d w search searches i _ hu hr hi, fuel_succ,
    finderDoFind_paths d w _ i config hi]

/-- … hence, for a search the Finder does not shortcut (`findSearches` unfolds it like
    `FindInAll` does: `C16.c16_find_unfolds`) and whose path answer has no duplicates,
    `FindInAll().find(search)` IS `FindInPaths(config).find(search)`, item for item.
    `hnd` is needed: `FindInAll` de-duplicates, `FindInPaths` does not (a star search over several
    searches de-duplicates Sids, not strings); it holds for '>' searches (`c11_paths_gt_nodup`)
    and for star searches whose found Sids have pairwise different strings
    (`c11_paths_star_nodup`). -/
theorem c11_all_eq_paths (w : World) (search : Str) (searches : List Sid) (i : Nat)
    (config : Option Str)
    (hu : d.ctx.unfoldSearch search false false = .ok searches)
    (hf : d.ctx.findSearches search = .ok searches)
    (hr : ∀ s ∈ searches, d.finderFor s = some i)
    (hi : d.data.finders[i]? = some (.paths config))
    (hnd : ∀ r, d.pathsDoFind w config searches = .ok r → r.Nodup) :
    d.findInAll w search = d.findInPaths w config search := by
  rw [c11_all_paths_dedup d w search searches i config hu hr hi]
  rw [findInPaths_of_searches d w config search searches hf]
  cases hp : d.pathsDoFind w config searches with
  | error e => rfl
  | ok r =>
    show Except.ok (Lst.dedupBy (· == ·) r) = Except.ok r
    rw [Lst.dedupBy_of_nodup r (hnd r hp)]

/-- the same set, without any hypothesis on duplicates: for a search the Finder does not shortcut
    and whose unfolded searches are all routed to `FindInPaths(config)`, `FindInAll().find` fails
    exactly when `FindInPaths(config).find` fails (with the same error), and otherwise returns the
    same SET of strings — the list of FindInPaths with later duplicates removed -/
theorem c11_all_same_set (w : World) (search : Str) (searches : List Sid) (i : Nat)
    (config : Option Str)
    (hu : d.ctx.unfoldSearch search false false = .ok searches)
    (hf : d.ctx.findSearches search = .ok searches)
    (hr : ∀ s ∈ searches, d.finderFor s = some i)
    (hi : d.data.finders[i]? = some (.paths config)) :
    (∀ e, d.findInPaths w config search = .error e → d.findInAll w search = .error e) ∧
    (∀ r, d.findInPaths w config search = .ok r →
      d.findInAll w search = .ok (Lst.dedupBy (· == ·) r) ∧
      ∀ x, x ∈ Lst.dedupBy (· == ·) r ↔ x ∈ r) := by
  rw [c11_all_paths_dedup d w search searches i config hu hr hi]
  rw [findInPaths_of_searches d w config search searches hf]
  constructor
  · intro e he; rw [he]; rfl
  · intro r hr'
    rw [hr']
    exact ⟨rfl, fun x => Lst.mem_dedupBy x r⟩

/-- a sorted ('>') search never yields a string twice (`sortedPick` de-duplicates) -/
theorem c11_paths_gt_nodup (star : List Sid → Except Err (List Str)) (searches : List Sid)
    (hgt : searches.any (fun x => Str.hasChar '>' x.string) = true) (r : List Str)
    (h : d.doFindWith star searches = .ok r) : r.Nodup := by
  cases searches with
  | nil => simp at hgt
  | cons s0 rest =>
    unfold DCtx.doFindWith at h
    simp only [List.isEmpty_cons, Bool.false_eq_true, if_false, hgt, if_true] at h
    split at h
    · cases h
    · split at h
      · cases h
      · cases h
        exact (C09.c09_pick_unique _ _).1

/-- hence for a '>' search routed to `FindInPaths(config)` the two Finders agree item for item -/
theorem c11_all_eq_paths_gt (w : World) (search : Str) (searches : List Sid) (i : Nat)
    (config : Option Str)
    (hu : d.ctx.unfoldSearch search false false = .ok searches)
    (hf : d.ctx.findSearches search = .ok searches)
    (hr : ∀ s ∈ searches, d.finderFor s = some i)
    (hi : d.data.finders[i]? = some (.paths config))
    (hgt : searches.any (fun x => Str.hasChar '>' x.string) = true) :
    d.findInAll w search = d.findInPaths w config search :=
  c11_all_eq_paths d w search searches i config hu hf hr hi
    (fun r h => c11_paths_gt_nodup d _ searches hgt r h)

/-- a star search yields no string twice when the found Sids (duplicate-free by `c11_star_list`)
    have pairwise different strings -/
theorem c11_paths_star_nodup (w : World) (config : Option Str) (searches : List Sid)
    (hgt : ∀ x ∈ searches, Str.hasChar '>' x.string = false) (rs : List Sid)
    (hrs : d.pathsStarSids w config searches = .ok rs) (hn : rs.Nodup)
    (hinj : ∀ x ∈ rs, ∀ y ∈ rs, x.string = y.string → x = y) (r : List Str)
    (h : d.pathsDoFind w config searches = .ok r) : r.Nodup := by
  rw [pathsDoFind_star d w config searches rs hgt hrs] at h
  cases h
  exact List.pairwise_map.2 (List.Pairwise.imp_of_mem
    (fun hx hy hne heq => hne (hinj _ hx _ hy heq)) hn)

/-- two well-typed Sids of the same type with the same string are equal (discharges `hinj` for
    the answers to ONE search) -/
theorem c11_wellTyped_string_inj (c : Ctx) (x y : Sid)
    (hx : wellTyped c.env c.cfg.sid.templates x) (hy : wellTyped c.env c.cfg.sid.templates y)
    (hty : x.type = y.type) (hs : x.string = y.string) : x = y :=
  HierL.wellTyped_ext hx hy hty hs

/-! ### (2) constants -/

/-- the search Sid `s` as the constants Finder of `key` sees it: `s` is well typed and carries no
    query (so that `Sid(search_sid)` is `s`); `root = s.get_as(key)` is well typed, carries no
    query, and `key` is its last key -/
structure ConstSearch (c : Ctx) (key : Str) (s root : Sid) : Prop where
  typed : wellTyped c.env c.cfg.sid.templates s
  noq : '?' ∉ s.string
  getAs : c.getAs s key = .ok root
  rootTyped : wellTyped c.env c.cfg.sid.templates root
  rootNoq : '?' ∉ root.string
  last : (root.fields.map (·.1)).getLast? = some key

/-- `ConstSearch` from C03 (`c03_get_as`): a well-typed query-free Sid whose `i`-th key is `key`
    and whose '/'-prefix of `i+1` segments is renderable has such a root — the Sid of that prefix -/
theorem c11_const_search (c : Ctx) (hwf : sidHierOk c.env c.cfg.sid.templates = true) (key : Str)
    (s : Sid) (hs : wellTyped c.env c.cfg.sid.templates s) (hq : '?' ∉ s.string) (i : Nat)
    (hi : i < s.fields.length) (hk : (s.fields.map (·.1))[i]! = key)
    (hr : renderable (Str.joinWith '/' ((Str.splitOn '/' s.string).take (i + 1)))) :
    ∃ root, ConstSearch c key s root ∧ root.fields = s.fields.take (i + 1) ∧
      root.string = Str.joinWith '/' ((Str.splitOn '/' s.string).take (i + 1)) := by
  obtain ⟨y, hy1, hy2, hy3, hy4⟩ := C03.c03_get_as c s hwf hs i hi hr
  rw [hk] at hy1
  refine ⟨y, ⟨hs, hq, hy1, hy2, ?_, ?_⟩, hy3, hy4⟩
  · intro hm
    rw [hy4] at hm
    obtain ⟨p, hp, hcp⟩ := (Str.mem_joinWith '/' '?' _ (by decide)).1 hm
    exact hq (Str.mem_of_mem_splitOn '/' _ p '?' (List.mem_of_mem_take hp) hcp)
  · rw [hy3, List.map_take, List.getLast?_eq_getElem?, List.length_take, List.length_map,
      Nat.min_eq_left (by omega), Nat.add_sub_cancel, List.getElem?_take_of_lt (by omega)]
    rw [List.getElem!_eq_getElem?_getD] at hk
    have hlt : i < (s.fields.map (·.1)).length := by simpa using hi
    rw [List.getElem?_eq_getElem hlt] at hk ⊢
    simpa using hk

section constants

variable (w : World) (fuel : Nat) (key : Str) (values : List Str) (parent : Option Nat)

/-- the search does not reach the key (`get_as(key)` is untyped): nothing -/
theorem c11_const_nothing (s s' root : Sid)
    (hs : (if s.typed then d.ctx.sidOfString s.uri else .ok Sid.empty) = .ok s')
    (hroot : d.ctx.getAs s' key = .ok root) (ht : root.typed = false) :
    d.constStar w fuel key values parent [s] = .ok [] := by
  rw [DCtx.constStar.eq_2, DCtx.constStar.eq_1]
  simp only [hs, hroot, ht, Bool.not_false, if_true, List.append_nil]

/-- (a) no '*' in the root: the root itself, as a string -/
theorem c11_const_concrete (hwf : sidHierOk d.ctx.env d.ctx.cfg.sid.templates = true) (s root : Sid)
    (hcs : ConstSearch d.ctx key s root) (h : Str.hasChar '*' root.string = false) :
    d.constStar w fuel key values parent [s] = .ok [root.string] :=
  constStar_concrete d w fuel key values parent s s root (HierL.sidOfString_uri_of_typed d.ctx hwf s hcs.typed hcs.noq)
    hcs.getAs (HierL.wellTyped_typed (HierL.hier_table hwf) hcs.rootTyped) h

/-- (b) '*' in the root but not above the key (`parentStr`: all segments but the last): the
    constant values `v`, in the order of `values`, for which the root with its last segment
    replaced by `v` is accepted by a template with the keys of the root — as those strings.
    Hypotheses: `hren` the parent's string is renderable (C03, phenomena E/N; only when there is a
    parent); `hvals` the constants are non-empty, '/'-free, newline-free (a '/' would add a
    level, an empty or newline-ended rendering is refused by `Resolver.format_*`: C02). -/
theorem c11_const_values (hwf : sidHierOk d.ctx.env d.ctx.cfg.sid.templates = true) (s root : Sid)
    (hcs : ConstSearch d.ctx key s root) (hstar : Str.hasChar '*' root.string = true)
    (hpar : Str.hasChar '*' (parentStr root.string) = false)
    (hren : 2 ≤ root.fields.length → renderable (parentStr root.string))
    (hvals : values.all constValOk = true) :
    d.constStar w fuel key values parent [s] =
      .ok ((values.filter (fun v => typedAs d.ctx (root.fields.map (·.1)) (replaceLast root.string v))).map
        (replaceLast root.string)) := by
  have hs := HierL.sidOfString_uri_of_typed d.ctx hwf s hcs.typed hcs.noq
  have hty := HierL.wellTyped_typed (HierL.hier_table hwf) hcs.rootTyped
  rw [← appendValues_last d hwf root hcs.rootTyped key hcs.last values hvals]
  by_cases hn : 2 ≤ root.fields.length
  · obtain ⟨rp, hp1, _, hp3, _, _, _⟩ := parent_ge2 d.ctx hwf root hcs.rootTyped hn (hren hn)
    exact constStar_append d w fuel key values parent s s root rp hs hcs.getAs hty hstar hp1
      (by rw [hp3, hpar]; rfl)
  · have hn1 : root.fields.length = 1 := by
      have : root.fields ≠ [] := fun h0 => by
        have := hcs.last
        rw [h0] at this
        cases this
      have := List.length_pos_iff.2 this
      omega
    have hp1 := HierL.parent_single d.ctx hwf root hcs.rootTyped hn1 hcs.rootNoq
    exact constStar_append d w fuel key values parent s s root root hs hcs.getAs hty hstar hp1
      (by simp [Sid.eqv])

/-- (b) as a membership statement -/
theorem c11_const_values_mem (hwf : sidHierOk d.ctx.env d.ctx.cfg.sid.templates = true) (s root : Sid)
    (hcs : ConstSearch d.ctx key s root) (hstar : Str.hasChar '*' root.string = true)
    (hpar : Str.hasChar '*' (parentStr root.string) = false)
    (hren : 2 ≤ root.fields.length → renderable (parentStr root.string))
    (hvals : values.all constValOk = true) :
    ∃ r, d.constStar w fuel key values parent [s] = .ok r ∧
      ∀ x, x ∈ r ↔ ∃ v ∈ values, typedAs d.ctx (root.fields.map (·.1)) (replaceLast root.string v) = true ∧
        x = replaceLast root.string v := by
  refine ⟨_, c11_const_values d w fuel key values parent hwf s root hcs hstar hpar hren hvals, fun x => ?_⟩
  simp only [List.mem_map, List.mem_filter, and_assoc, eq_comm]

/-- (c) '*' above the key (the root has a parent and the parent's string contains '*'): the parent
    of the root is the well-typed Sid `rp` of all segments but the last; without parent source the
    search raises `SpilException`; with the parent source `pi` the answer is, for every root the
    parent source finds for `rp` (`Finder.find`), in order, what `perRoot` makes of it -/
theorem c11_const_parent (hwf : sidHierOk d.ctx.env d.ctx.cfg.sid.templates = true) (s root : Sid)
    (hcs : ConstSearch d.ctx key s root) (hn : 2 ≤ root.fields.length)
    (hren : renderable (parentStr root.string))
    (hpar : Str.hasChar '*' (parentStr root.string) = true) :
    ∃ rp, d.ctx.parent root = .ok rp ∧ wellTyped d.ctx.env d.ctx.cfg.sid.templates rp ∧
      rp.string = parentStr root.string ∧ rp.fields = root.fields.dropLast ∧
      d.constStar w fuel key values none [s] = .error .spil ∧
      ∀ pi, d.constStar w fuel key values (some pi) [s] =
        match d.finderFind w fuel pi rp with
        | .error e => .error e
        | .ok frs => Ctx.flatMapE (perRoot d key values root) frs := by
  obtain ⟨rp, hp1, hp2, hp3, hp4, hp5, last, hp6⟩ := parent_ge2 d.ctx hwf root hcs.rootTyped hn hren
  have hs := HierL.sidOfString_uri_of_typed d.ctx hwf s hcs.typed hcs.noq
  have hty := HierL.wellTyped_typed (HierL.hier_table hwf) hcs.rootTyped
  have hstar : Str.hasChar '*' root.string = true := by
    rw [← hp6]
    unfold Str.hasChar at hpar ⊢
    rw [List.any_append, hp3, hpar]
    rfl
  have hrp : (Str.hasChar '*' rp.string && !(Sid.eqv root rp)) = true := by
    rw [hp3, hpar, hp5]; rfl
  exact ⟨rp, hp1, hp2, hp3, hp4,
    constStar_no_parent d w fuel key values s s root rp hs hcs.getAs hty hstar hp1 hrp,
    fun pi => constStar_parent d w fuel key values pi s s root rp hs hcs.getAs hty hstar hp1 hrp⟩

/-- the values the constants Finder appends to a found root `fr` for a search whose key has the
    value `v`: the value itself when it is fixed — ANY value other than "*", it is neither compared
    with `values` nor is the result required to be typed (`found_root / value`) — and, when the key
    is searched ("*"), the constant values that give a typed Sid below `fr` -/
def admitted (c : Ctx) (key : Str) (values : List Str) (v fr : Str) : List Str :=
  if v = ['*'] then values.filter (admitsChild c key fr) else [v]

/-- what the statements ask of a root `fr` found by the parent source: it carries neither a query
    nor a uri prefix (`Sid(fr)` would cut them off: `Sid("a:b")` has the string "b"), and, when
    the key is searched, it is not empty (`Sid("").get_with(key=v)` is the ONE-field Sid `v`) and
    `Sid(fr)` does not already have the key (`get_with` would replace its value in place) -/
def FoundOk (c : Ctx) (key v fr : Str) : Prop :=
  '?' ∉ fr ∧ ':' ∉ fr ∧ (v = ['*'] → fr ≠ [] ∧ key ∉ keysOfStr c fr)

/-- (c) in closed form: with `v` the value of the key in the root, the answer is, for every root
    `fr` the parent source finds for the parent search `rp`, in order, `fr/u` for every `u` the
    last segment admits (`admitted`).  Hypotheses, besides those of `c11_const_parent`:
    `hvc` no ':' in the value (`Sid("fr/a:b")` is a uri); and, only when the key is searched,
    `keyAppends` (the templates list the key AFTER the keys of the parent level, else `get_with`
    renders it elsewhere) and `constValOk` for the constants (as in `c11_const_values`). -/
theorem c11_const_one (hwf : sidHierOk d.ctx.env d.ctx.cfg.sid.templates = true) (s root : Sid)
    (hcs : ConstSearch d.ctx key s root) (hn : 2 ≤ root.fields.length)
    (hren : renderable (parentStr root.string))
    (hpar : Str.hasChar '*' (parentStr root.string) = true)
    (v : Str) (hv : root.fields.get key = some v) (hvc : ':' ∉ v)
    (hstar : v = ['*'] → keyAppends d.ctx.cfg.sid.templates key = true ∧ values.all constValOk = true) :
    ∃ rp, d.ctx.parent root = .ok rp ∧ wellTyped d.ctx.env d.ctx.cfg.sid.templates rp ∧
      rp.string = parentStr root.string ∧
      ∀ pi frs, d.finderFind w fuel pi rp = .ok frs → (∀ fr ∈ frs, FoundOk d.ctx key v fr) →
        d.constStar w fuel key values (some pi) [s] =
          .ok (frs.flatMap (fun fr => (admitted d.ctx key values v fr).map (fun u => fr ++ '/' :: u))) := by
  obtain ⟨rp, hp1, hp2, hp3, _, _, hall⟩ :=
    c11_const_parent d w fuel key values hwf s root hcs hn hren hpar
  refine ⟨rp, hp1, hp2, hp3, ?_⟩
  intro pi frs hfr hok
  rw [hall pi, hfr]
  simp only []
  obtain ⟨h1, _, _, _⟩ := HierL.hier_unpack _ _ hwf
  have hvq : '?' ∉ v := by
    intro hm
    have hg := HierL.wellTyped_get_last (HierL.hier_table hwf) hcs.rootTyped hcs.last
    rw [hv] at hg
    exact hcs.rootNoq (Str.mem_of_mem_splitOn '/' root.string v '?' (List.mem_of_getLast? hg.symm) hm)
  apply Ctx.flatMapE_eq_flatMap
  intro fr hfrm
  obtain ⟨hq, hc, hst⟩ := hok fr hfrm
  unfold admitted
  by_cases hvs : v = ['*']
  · subst hvs
    obtain ⟨hne, hk⟩ := hst rfl
    obtain ⟨hka, hvals⟩ := hstar rfl
    simp only [if_true]
    exact perRoot_star d hwf key hka values hvals root hv fr hne hq hc hk
  · simp only [hvs, if_false, List.map_cons, List.map_nil]
    exact perRoot_fixed d h1 key values root v hv hvs hvq hvc fr hq hc

end constants

/-- everything the statements need to know about ONE search Sid `s` of a constants group whose
    parent level is searched: `s` and its root as in `ConstSearch`; the root has a parent whose
    (renderable) string contains '*'; `v` is the value of the key; the parent of the root is `rp`
    and the parent source `pi` answers `Finder.find(rp)` with `frs`, all of them `FoundOk` -/
def ParentAnswers (d : DCtx) (w : World) (fuel : Nat) (key : Str) (values : List Str) (pi : Nat)
    (s : Sid) (v : Str) (frs : List Str) : Prop :=
  ∃ root rp, ConstSearch d.ctx key s root ∧ 2 ≤ root.fields.length ∧
    renderable (parentStr root.string) ∧ Str.hasChar '*' (parentStr root.string) = true ∧
    root.fields.get key = some v ∧ ':' ∉ v ∧
    (v = ['*'] → keyAppends d.ctx.cfg.sid.templates key = true ∧ values.all constValOk = true) ∧
    d.ctx.parent root = .ok rp ∧ d.finderFind w fuel pi rp = .ok frs ∧
    ∀ fr ∈ frs, FoundOk d.ctx key v fr

/-- one search Sid: "parents found × admitted constants", as an exact list -/
theorem c11_const_answer (hwf : sidHierOk d.ctx.env d.ctx.cfg.sid.templates = true) (w : World)
    (fuel : Nat) (key : Str) (values : List Str) (pi : Nat) (s : Sid) (v : Str) (frs : List Str)
    (h : ParentAnswers d w fuel key values pi s v frs) :
    d.constStar w fuel key values (some pi) [s] =
      .ok (frs.flatMap (fun fr => (admitted d.ctx key values v fr).map (fun u => fr ++ '/' :: u))) := by
  obtain ⟨root, rp, hcs, hn, hren, hpar, hv, hvc, hstar, hp, hfr, hok⟩ := h
  obtain ⟨rp', hp', _, _, hall⟩ :=
    c11_const_one d w fuel key values hwf s root hcs hn hren hpar v hv hvc hstar
  rw [hp] at hp'
  injection hp' with hp'
  subst hp'
  exact hall pi frs hfr hok

/-- … and as a membership statement -/
theorem c11_const_answer_mem (hwf : sidHierOk d.ctx.env d.ctx.cfg.sid.templates = true) (w : World)
    (fuel : Nat) (key : Str) (values : List Str) (pi : Nat) (s : Sid) (v : Str) (frs : List Str)
    (h : ParentAnswers d w fuel key values pi s v frs) :
    ∃ r, d.constStar w fuel key values (some pi) [s] = .ok r ∧
      ∀ x, x ∈ r ↔ ∃ fr ∈ frs, ∃ u ∈ admitted d.ctx key values v fr, x = fr ++ '/' :: u := by
  refine ⟨_, c11_const_answer d hwf w fuel key values pi s v frs h, fun x => ?_⟩
  simp only [List.mem_flatMap, List.mem_map, eq_comm]

/-- a GROUP of search Sids (the or-list case: several searches routed to the same constants
    Finder): the concatenation, in the order of the searches, of the answers to each -/
theorem c11_const_group (hwf : sidHierOk d.ctx.env d.ctx.cfg.sid.templates = true) (w : World)
    (fuel : Nat) (key : Str) (values : List Str) (pi : Nat) (ss : List Sid) (V : Sid → Str)
    (P : Sid → List Str) (h : ∀ s ∈ ss, ParentAnswers d w fuel key values pi s (V s) (P s)) :
    d.constStar w fuel key values (some pi) ss =
      .ok (ss.flatMap (fun s => (P s).flatMap (fun fr =>
        (admitted d.ctx key values (V s) fr).map (fun u => fr ++ '/' :: u)))) := by
  rw [constStar_eq_flatMapE]
  apply Ctx.flatMapE_eq_flatMap
  intro s hs
  exact c11_const_answer d hwf w fuel key values pi s (V s) (P s) (h s hs)

/-- star searches routed to one `FindInConstants`: the Finder's group answer is the concatenation of
    its answers to the single search Sids (for a level WITHOUT searched parent these are the cases
    (a) and (b): every search Sid is answered from the constants alone) -/
theorem c11_const_find_all_flat (w : World) (search : Str) (searches : List Sid) (i : Nat)
    (key : Str) (values : List Str) (parent : Option Nat)
    (hu : d.ctx.unfoldSearch search false false = .ok searches)
    (hr : ∀ s ∈ searches, d.finderFor s = some i)
    (hi : d.data.finders[i]? = some (.constants key values parent))
    (hgt : ∀ s ∈ searches, Str.hasChar '>' s.string = false) :
    d.findInAll w search =
      (Ctx.flatMapE (fun s => d.constStar w (2 * d.data.finders.length + 1) key values parent [s])
        searches).map (Lst.dedupBy (· == ·)) := by
  rw [findInAll_single d w search searches i _ hu hr hi, fuel_succ,
    finderDoFind_constants d w _ i key values parent hi]
  cases searches with
  | nil => rfl
  | cons s rest => rw [doFindWith_star d _ _ (by simp) hgt, constStar_eq_flatMapE]

/-- the corollary the property sentence is about: the set returned is
        { fr/u | s ∈ searches, fr ∈ (what the parent source finds for the parent of s),
                 u ∈ (the constants the last segment of s admits below fr) },
    with `ParentAnswers` taken at the fuel `FindInAll` leaves to the parent source (by
    `c11_fuel_find` any larger fuel does as well).  This is the reading the oracle of the harness
    checks on the code ("parents found × admitted constants", and the union over the alternatives
    of an or-list), with the two provisos stated at `admitted`. -/
theorem c11_const_find_all (hwf : sidHierOk d.ctx.env d.ctx.cfg.sid.templates = true) (w : World)
    (search : Str) (searches : List Sid) (i : Nat) (key : Str) (values : List Str) (pi : Nat)
    (hu : d.ctx.unfoldSearch search false false = .ok searches)
    (hr : ∀ s ∈ searches, d.finderFor s = some i)
    (hi : d.data.finders[i]? = some (.constants key values (some pi)))
    (hgt : ∀ s ∈ searches, Str.hasChar '>' s.string = false)
    (V : Sid → Str) (P : Sid → List Str)
    (h : ∀ s ∈ searches,
      ParentAnswers d w (2 * d.data.finders.length + 1) key values pi s (V s) (P s)) :
    ∃ r, d.findInAll w search = .ok r ∧ r.Nodup ∧
      r = Lst.dedupBy (· == ·) (searches.flatMap (fun s => (P s).flatMap (fun fr =>
        (admitted d.ctx key values (V s) fr).map (fun u => fr ++ '/' :: u)))) ∧
      ∀ x, x ∈ r ↔ ∃ s ∈ searches, ∃ fr ∈ P s, ∃ u ∈ admitted d.ctx key values (V s) fr,
        x = fr ++ '/' :: u := by
  refine ⟨_, ?_, Lst.dedupBy_nodup _, rfl, fun x => ?_⟩
  · rw [c11_const_find_all_flat d w search searches i key values (some pi) hu hr hi hgt,
      ← constStar_eq_flatMapE, c11_const_group d hwf w _ key values pi _ V P h]
    rfl
  · simp only [Lst.mem_dedupBy, List.mem_flatMap, List.mem_map, eq_comm]

/-! ### (3) the fuel -/

/-- for a data configuration whose parent indices are valid and acyclic (`chainOk`), giving
    the Finders more fuel than `FindInAll` does changes no answer of any Finder -/
theorem c11_fuel (w : World) (hc : d.data.chainOk = true) (i k : Nat) (ss : List Sid) :
    d.finderDoFind w (d.fuel + k) i ss = d.finderDoFind w d.fuel i ss :=
  finderDoFind_fuel d w hc i _ _ (by unfold DCtx.fuel; omega) (by unfold DCtx.fuel; omega) ss

/-- the parent source's `Finder.find`, as `FindInConstants` calls it from `FindInAll` (fuel
    `2 * finders.length + 1`), answers the same with any larger fuel -/
theorem c11_fuel_find (w : World) (hc : d.data.chainOk = true) (pi f : Nat)
    (hf : 2 * d.data.finders.length + 1 ≤ f) (rp : Sid) :
    d.finderFind w f pi rp = d.finderFind w (2 * d.data.finders.length + 1) pi rp := by
  obtain ⟨f', rfl⟩ : ∃ f', f = f' + 1 := ⟨f - 1, by omega⟩
  rw [finderFind_succ, finderFind_succ]
  exact findVia_congr d.ctx _ _ (finderDoFind_fuel d w hc pi _ _ (by omega) (Nat.le_refl _)) rp

/-- `c11_fuel` with `f` for `d.fuel + k`: under `chainOk` every Finder answers with any fuel
    `f ≥ d.fuel` as it does with `d.fuel`; so an `.error .other` returned at `d.fuel` is returned
    at every larger fuel too -/
theorem c11_fuel_stable (w : World) (hc : d.data.chainOk = true) (i : Nat) (ss : List Sid) :
    ∀ f, d.fuel ≤ f → d.finderDoFind w f i ss = d.finderDoFind w d.fuel i ss :=
  fun f hf => by
    obtain ⟨k, rfl⟩ := Nat.exists_eq_add_of_le hf
    exact c11_fuel d w hc i k ss

end C11
