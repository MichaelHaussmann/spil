/-
  Spil.Props.C11cExamples — non-vacuity of C11c on the SHIPPED configuration: the data
  configuration of `spil_hamlet_conf/spil_data_conf.py` as the harness probes it (`dAll`), a tree
  with two files, and `FindInAll` for an asset-level search (routed to FindInPaths), a state-level
  or-list search, a state-level star search (constants below a searched parent), an
  assettype-level search (constants, concrete parent) and a concrete assettype — each answer
  DERIVED from the theorems of C11c with every hypothesis discharged by the kernel, and equal to
  what the model evaluates to.  The sections follow C11c: (1) routing, (2a)-(2c) constants, (3) fuel.
-/
import Spil.Props.C11c
import Spil.Props.C11bExamples
import Spil.Props.C16b

namespace C11cEx

open Spec Generated AllL C11Ex

/-! ### the shipped data configuration, a world -/

/-- `get_finder_for` of the shipped `spil_data_conf`, as `extract_conf.probe_data_conf` describes
    it: 0 = FindInPaths(), 1 = states (parent: paths), 2 = projects, 3 = types (parent: projects),
    4 = asset types (parent: types); default = paths -/
def dAll : DCtx := ⟨demoCtx, ⟨[.paths none,
    .constants ['s','t','a','t','e'] [['w'], ['p']] (some 0),
    .constants ['p','r','o','j','e','c','t'] [['h','a','m','l','e','t']] none,
    .constants ['t','y','p','e'] [['a'], ['s']] (some 2),
    .constants ['a','s','s','e','t','t','y','p','e'] [['c','h','a','r'], ['l','o','c','a','t','i','o','n'], ['p','r','o','p'], ['f','x']] (some 3)],
  [(['a','s','s','e','t','_','_','s','t','a','t','e'], 1), (['a','s','s','e','t','_','_','a','s','s','e','t','t','y','p','e'], 4), (['a','s','s','e','t'], 3), (['s','h','o','t','_','_','s','t','a','t','e'], 1), (['s','h','o','t'], 3), (['p','r','o','j','e','c','t'], 2)], some 0,
  [['a','s','s','e','t','_','_','s','t','a','t','e'], ['a','s','s','e','t','_','_','a','s','s','e','t','t','y','p','e'], ['a','s','s','e','t'], ['s','h','o','t','_','_','s','t','a','t','e'], ['s','h','o','t'], ['p','r','o','j','e','c','t']], true⟩⟩

/-- two characters, each with its asset directory, one version directory and one file
    (ophelia: model v001 WORK, yorick: model v002 PUBLISH) -/
def wA : World := ⟨[(['/','R','/','d','a','t','a','/','t','e','s','t','i','n','g','/','S','P','I','L','_','P','R','O','J','E','C','T','S','/','L','O','C','A','L','/','P','R','O','J','E','C','T','S','/','H','A','M','L','E','T','/','P','R','O','D','/','A','S','S','E','T','S','/','c','h','a','r','/','o','p','h','e','l','i','a'], .dir),
  (['/','R','/','d','a','t','a','/','t','e','s','t','i','n','g','/','S','P','I','L','_','P','R','O','J','E','C','T','S','/','L','O','C','A','L','/','P','R','O','J','E','C','T','S','/','H','A','M','L','E','T','/','P','R','O','D','/','A','S','S','E','T','S','/','c','h','a','r','/','o','p','h','e','l','i','a','/','m','o','d','e','l','/','v','0','0','1'], .dir),
  (['/','R','/','d','a','t','a','/','t','e','s','t','i','n','g','/','S','P','I','L','_','P','R','O','J','E','C','T','S','/','L','O','C','A','L','/','P','R','O','J','E','C','T','S','/','H','A','M','L','E','T','/','P','R','O','D','/','A','S','S','E','T','S','/','c','h','a','r','/','o','p','h','e','l','i','a','/','m','o','d','e','l','/','v','0','0','1','/','c','h','a','r','_','o','p','h','e','l','i','a','_','m','o','d','e','l','_','W','O','R','K','_','v','0','0','1','.','m','a'], .file),
  (['/','R','/','d','a','t','a','/','t','e','s','t','i','n','g','/','S','P','I','L','_','P','R','O','J','E','C','T','S','/','L','O','C','A','L','/','P','R','O','J','E','C','T','S','/','H','A','M','L','E','T','/','P','R','O','D','/','A','S','S','E','T','S','/','c','h','a','r','/','y','o','r','i','c','k'], .dir),
  (['/','R','/','d','a','t','a','/','t','e','s','t','i','n','g','/','S','P','I','L','_','P','R','O','J','E','C','T','S','/','L','O','C','A','L','/','P','R','O','J','E','C','T','S','/','H','A','M','L','E','T','/','P','R','O','D','/','A','S','S','E','T','S','/','c','h','a','r','/','y','o','r','i','c','k','/','m','o','d','e','l','/','v','0','0','2'], .dir),
  (['/','R','/','d','a','t','a','/','t','e','s','t','i','n','g','/','S','P','I','L','_','P','R','O','J','E','C','T','S','/','L','O','C','A','L','/','P','R','O','J','E','C','T','S','/','H','A','M','L','E','T','/','P','R','O','D','/','A','S','S','E','T','S','/','c','h','a','r','/','y','o','r','i','c','k','/','m','o','d','e','l','/','v','0','0','2','/','c','h','a','r','_','y','o','r','i','c','k','_','m','o','d','e','l','_','P','U','B','L','I','S','H','_','v','0','0','2','.','m','a'], .file)], []⟩

/-- key and values of the Finders 1 and 4 of `dAll`, by name -/
def kState : Str := ['s','t','a','t','e']
def kAssettype : Str := ['a','s','s','e','t','t','y','p','e']
def vState : List Str := [['w'], ['p']]
def vAssettype : List Str := [['c','h','a','r'], ['l','o','c','a','t','i','o','n'], ['p','r','o','p'], ['f','x']]
def verO : Str := ['h','a','m','l','e','t','/','a','/','c','h','a','r','/','o','p','h','e','l','i','a','/','m','o','d','e','l','/','v','0','0','1']
def verY : Str := ['h','a','m','l','e','t','/','a','/','c','h','a','r','/','y','o','r','i','c','k','/','m','o','d','e','l','/','v','0','0','2']

/-- "hamlet/a/char/*" -/
def aStr : Str := ['h','a','m','l','e','t','/','a','/','c','h','a','r','/','*']
def aSid : Sid :=
  ⟨['h','a','m','l','e','t','/','a','/','c','h','a','r','/','*'],
    ['a','s','s','e','t','_','_','a','s','s','e','t'],
    [(['p','r','o','j','e','c','t'], ['h','a','m','l','e','t']), (['t','y','p','e'], ['a']), (['a','s','s','e','t','t','y','p','e'], ['c','h','a','r']), (['a','s','s','e','t'], ['*'])]⟩
/-- "hamlet/a/char/*/model/*/w,p" and the two typed searches it unfolds to -/
def cStr : Str := ['h','a','m','l','e','t','/','a','/','c','h','a','r','/','*','/','m','o','d','e','l','/','*','/','w',',','p']
def sW : Sid :=
  ⟨['h','a','m','l','e','t','/','a','/','c','h','a','r','/','*','/','m','o','d','e','l','/','*','/','w'],
    ['a','s','s','e','t','_','_','s','t','a','t','e'],
    [(['p','r','o','j','e','c','t'], ['h','a','m','l','e','t']), (['t','y','p','e'], ['a']), (['a','s','s','e','t','t','y','p','e'], ['c','h','a','r']), (['a','s','s','e','t'], ['*']), (['t','a','s','k'], ['m','o','d','e','l']), (['v','e','r','s','i','o','n'], ['*']), (['s','t','a','t','e'], ['w'])]⟩
def sP : Sid :=
  ⟨['h','a','m','l','e','t','/','a','/','c','h','a','r','/','*','/','m','o','d','e','l','/','*','/','p'],
    ['a','s','s','e','t','_','_','s','t','a','t','e'],
    [(['p','r','o','j','e','c','t'], ['h','a','m','l','e','t']), (['t','y','p','e'], ['a']), (['a','s','s','e','t','t','y','p','e'], ['c','h','a','r']), (['a','s','s','e','t'], ['*']), (['t','a','s','k'], ['m','o','d','e','l']), (['v','e','r','s','i','o','n'], ['*']), (['s','t','a','t','e'], ['p'])]⟩
/-- their common parent search "hamlet/a/char/*/model/*" -/
def vSid : Sid :=
  ⟨['h','a','m','l','e','t','/','a','/','c','h','a','r','/','*','/','m','o','d','e','l','/','*'],
    ['a','s','s','e','t','_','_','v','e','r','s','i','o','n'],
    [(['p','r','o','j','e','c','t'], ['h','a','m','l','e','t']), (['t','y','p','e'], ['a']), (['a','s','s','e','t','t','y','p','e'], ['c','h','a','r']), (['a','s','s','e','t'], ['*']), (['t','a','s','k'], ['m','o','d','e','l']), (['v','e','r','s','i','o','n'], ['*'])]⟩
/-- "hamlet/a/char/*/model/*/*" -/
def kStr : Str := ['h','a','m','l','e','t','/','a','/','c','h','a','r','/','*','/','m','o','d','e','l','/','*','/','*']
def sK : Sid :=
  ⟨['h','a','m','l','e','t','/','a','/','c','h','a','r','/','*','/','m','o','d','e','l','/','*','/','*'],
    ['a','s','s','e','t','_','_','s','t','a','t','e'],
    [(['p','r','o','j','e','c','t'], ['h','a','m','l','e','t']), (['t','y','p','e'], ['a']), (['a','s','s','e','t','t','y','p','e'], ['c','h','a','r']), (['a','s','s','e','t'], ['*']), (['t','a','s','k'], ['m','o','d','e','l']), (['v','e','r','s','i','o','n'], ['*']), (['s','t','a','t','e'], ['*'])]⟩
/-- "hamlet/a/*" -/
def tStr : Str := ['h','a','m','l','e','t','/','a','/','*']
def sT : Sid :=
  ⟨['h','a','m','l','e','t','/','a','/','*'],
    ['a','s','s','e','t','_','_','a','s','s','e','t','t','y','p','e'],
    [(['p','r','o','j','e','c','t'], ['h','a','m','l','e','t']), (['t','y','p','e'], ['a']), (['a','s','s','e','t','t','y','p','e'], ['*'])]⟩
/-- "hamlet/a/char" -/
def gStr : Str := ['h','a','m','l','e','t','/','a','/','c','h','a','r']
def sG : Sid :=
  ⟨['h','a','m','l','e','t','/','a','/','c','h','a','r'],
    ['a','s','s','e','t','_','_','a','s','s','e','t','t','y','p','e'],
    [(['p','r','o','j','e','c','t'], ['h','a','m','l','e','t']), (['t','y','p','e'], ['a']), (['a','s','s','e','t','t','y','p','e'], ['c','h','a','r'])]⟩

def rAsset : List Str := [['h','a','m','l','e','t','/','a','/','c','h','a','r','/','o','p','h','e','l','i','a'], ['h','a','m','l','e','t','/','a','/','c','h','a','r','/','y','o','r','i','c','k']]
def rOr : List Str := [['h','a','m','l','e','t','/','a','/','c','h','a','r','/','o','p','h','e','l','i','a','/','m','o','d','e','l','/','v','0','0','1','/','p'], ['h','a','m','l','e','t','/','a','/','c','h','a','r','/','y','o','r','i','c','k','/','m','o','d','e','l','/','v','0','0','2','/','p'], ['h','a','m','l','e','t','/','a','/','c','h','a','r','/','o','p','h','e','l','i','a','/','m','o','d','e','l','/','v','0','0','1','/','w'], ['h','a','m','l','e','t','/','a','/','c','h','a','r','/','y','o','r','i','c','k','/','m','o','d','e','l','/','v','0','0','2','/','w']]
def rStar : List Str := [['h','a','m','l','e','t','/','a','/','c','h','a','r','/','o','p','h','e','l','i','a','/','m','o','d','e','l','/','v','0','0','1','/','w'], ['h','a','m','l','e','t','/','a','/','c','h','a','r','/','o','p','h','e','l','i','a','/','m','o','d','e','l','/','v','0','0','1','/','p'], ['h','a','m','l','e','t','/','a','/','c','h','a','r','/','y','o','r','i','c','k','/','m','o','d','e','l','/','v','0','0','2','/','w'], ['h','a','m','l','e','t','/','a','/','c','h','a','r','/','y','o','r','i','c','k','/','m','o','d','e','l','/','v','0','0','2','/','p']]
def rTypes : List Str := [['h','a','m','l','e','t','/','a','/','c','h','a','r'], ['h','a','m','l','e','t','/','a','/','l','o','c','a','t','i','o','n'], ['h','a','m','l','e','t','/','a','/','p','r','o','p'], ['h','a','m','l','e','t','/','a','/','f','x']]

theorem hwf : sidHierOk dAll.ctx.env dAll.ctx.cfg.sid.templates = true := Tie.demo_wf

/-! ### the Finders of the table -/

theorem ex_f0 : dAll.data.finders[0]? = some (.paths none) := rfl
theorem ex_f1 : dAll.data.finders[1]? = some (.constants kState vState (some 0)) := rfl
theorem ex_f4 : dAll.data.finders[4]? = some (.constants kAssettype vAssettype (some 3)) := rfl

/-- `FindInPaths().find` as the states Finder calls it: `Finder.find` over `FindInPaths.do_find` -/
theorem ex_find_paths (w : World) (fuel : Nat) (rp : Sid) :
    dAll.finderFind w (fuel + 2) 0 rp = findVia demoCtx (dAll.pathsDoFind w none) rp := by
  rw [finderFind_succ]
  apply findVia_congr
  intro ss
  exact finderDoFind_paths dAll w fuel 0 none ex_f0 ss

/-! ### (1) an asset-level search is routed to FindInPaths -/

theorem ex_unfold_a : demoCtx.unfoldSearch aStr false false = .ok [aSid] :=
  okIs_eq _ _ (by decide +kernel)
/-- the Finder does not shortcut this search (`C16.c16_find_unfolds`): it unfolds it like `FindInAll` -/
theorem ex_searches_a : demoCtx.findSearches aStr = .ok [aSid] :=
  (C16.c16_find_unfolds dAll aStr aSid (okIs_eq _ _ (by decide +kernel)) (by decide +kernel)).trans
    ex_unfold_a
theorem ex_route_a : ∀ s ∈ [aSid], dAll.finderFor s = some 0 := by decide +kernel
theorem ex_paths_a : dAll.pathsDoFind wA none [aSid] = .ok rAsset := okIs_eq _ _ (by decide +kernel)

/-- `c11_all_eq_paths` instantiated: FindInAll IS FindInPaths for this search … -/
theorem ex_all_eq_paths : dAll.findInAll wA aStr = dAll.findInPaths wA none aStr :=
  C11.c11_all_eq_paths dAll wA aStr [aSid] 0 none ex_unfold_a ex_searches_a ex_route_a ex_f0
    (fun r hr => by rw [ex_paths_a] at hr; cases hr; decide +kernel)

/-- … and both find the two characters -/
theorem ex_all_a : dAll.findInAll wA aStr = .ok rAsset := by
  rw [ex_all_eq_paths, findInPaths_of_searches dAll wA none aStr [aSid] ex_searches_a]
  exact ex_paths_a

/-! ### (2a) a concrete assettype -/

theorem ex_unfold_g : demoCtx.unfoldSearch gStr false false = .ok [sG] :=
  okIs_eq _ _ (by decide +kernel)

theorem ex_cs_assettype (s : Sid) (hs : s ∈ [sG, sT]) : C11.ConstSearch demoCtx kAssettype s s := by
  simp only [List.mem_cons, List.not_mem_nil, or_false] at hs
  rcases hs with rfl | rfl <;>
    exact ⟨wellTyped_of_B _ _ _ (by decide +kernel), by decide +kernel, okIs_eq _ _ (by decide +kernel),
      wellTyped_of_B _ _ _ (by decide +kernel), by decide +kernel, by decide +kernel⟩

theorem ex_all_g : dAll.findInAll wA gStr = .ok [gStr] := by
  rw [C11.c11_const_find_all_flat dAll wA gStr [sG] 4 kAssettype vAssettype (some 3) ex_unfold_g
    (by decide +kernel) ex_f4 (by decide +kernel),
    Ctx.flatMapE_singleton,
    C11.c11_const_concrete dAll wA _ kAssettype vAssettype (some 3) hwf sG sG (ex_cs_assettype sG (by simp)) (by decide +kernel)]
  rfl

/-! ### (2b) an assettype-level search: constants below a concrete parent -/

theorem ex_unfold_t : demoCtx.unfoldSearch tStr false false = .ok [sT] :=
  okIs_eq _ _ (by decide +kernel)

theorem ex_all_t : dAll.findInAll wA tStr = .ok rTypes := by
  rw [C11.c11_const_find_all_flat dAll wA tStr [sT] 4 kAssettype vAssettype (some 3) ex_unfold_t
    (by decide +kernel) ex_f4 (by decide +kernel),
    Ctx.flatMapE_singleton,
    C11.c11_const_values dAll wA _ kAssettype vAssettype (some 3) hwf sT sT (ex_cs_assettype sT (by simp)) (by decide +kernel)
      (by decide +kernel) (fun _ => by decide +kernel) (by decide +kernel)]
  exact congrArg Except.ok (by decide +kernel)

/-! ### (2c) a state-level or-list search: constants below a searched parent -/

theorem ex_unfold_c : demoCtx.unfoldSearch cStr false false = .ok [sP, sW] :=
  okIs_eq _ _ (by decide +kernel)

theorem ex_route_c : ∀ s ∈ [sP, sW], dAll.finderFor s = some 1 := by decide +kernel

theorem ex_cs (s : Sid) (hs : s ∈ [sP, sW, sK]) : C11.ConstSearch demoCtx kState s s := by
  simp only [List.mem_cons, List.not_mem_nil, or_false] at hs
  rcases hs with rfl | rfl | rfl <;>
    exact ⟨wellTyped_of_B _ _ _ (by decide +kernel), by decide +kernel, okIs_eq _ _ (by decide +kernel),
      wellTyped_of_B _ _ _ (by decide +kernel), by decide +kernel, by decide +kernel⟩

/-- `ConstSearch` obtained from C03 (`c11_const_search`, i.e. `c03_get_as`) instead of evaluating
    `get_as`: the key `state` is the 7th key of the search Sid -/
theorem ex_cs_c03 : ∃ root, C11.ConstSearch demoCtx kState sW root ∧
    root.fields = sW.fields.take 7 ∧
    root.string = Str.joinWith '/' ((Str.splitOn '/' sW.string).take 7) :=
  C11.c11_const_search demoCtx Tie.demo_wf kState sW (wellTyped_of_B _ _ _ (by decide +kernel))
    (by decide +kernel) 6 (by decide +kernel) (by decide +kernel) (by decide +kernel)

/-- the parent search of all three state searches is "hamlet/a/char/*/model/*" -/
theorem ex_parent (s : Sid) (hs : s ∈ [sP, sW, sK]) : demoCtx.parent s = .ok vSid := by
  simp only [List.mem_cons, List.not_mem_nil, or_false] at hs
  rcases hs with rfl | rfl | rfl <;> exact okIs_eq _ _ (by decide +kernel)

/-- FindInPaths answers the parent search with the two version directories -/
theorem ex_versions : findVia demoCtx (dAll.pathsDoFind wA none) vSid = .ok [verO, verY] :=
  okIs_eq _ _ (by decide +kernel)

theorem ex_found : dAll.finderFind wA (2 * dAll.data.finders.length + 1) 0 vSid = .ok [verO, verY] :=
  -- five finders: the fuel is 2 * 5 + 1 = 9 + 2
  (ex_find_paths wA 9 vSid).trans ex_versions

theorem ex_keyAppends : keyAppends demoConf.sid.templates kState = true := by decide +kernel

theorem ex_foundOk (v : Str) (fr : Str) (hfr : fr ∈ [verO, verY]) : C11.FoundOk demoCtx kState v fr := by
  simp only [List.mem_cons, List.not_mem_nil, or_false] at hfr
  rcases hfr with rfl | rfl <;>
    exact ⟨by decide +kernel, by decide +kernel, fun _ => ⟨by decide +kernel, by decide +kernel⟩⟩

theorem ex_answers (s : Sid) (hs : s ∈ [sP, sW, sK]) :
    C11.ParentAnswers dAll wA (2 * dAll.data.finders.length + 1) kState vState 0 s
      ((s.fields.get kState).getD []) [verO, verY] := by
  refine ⟨s, vSid, ex_cs s hs, ?_, ?_, ?_, ?_, ?_, fun _ => ⟨ex_keyAppends, by decide +kernel⟩,
    ex_parent s hs, ex_found, fun fr hfr => ex_foundOk _ fr hfr⟩
  all_goals
    revert s
    decide +kernel

/-- `c11_const_find_all` instantiated on the or-list search: FindInAll answers with
    (versions found by FindInPaths) × (the values w, p the last segment admits) -/
theorem ex_find_all_c : ∃ r, dAll.findInAll wA cStr = .ok r ∧ r.Nodup ∧
    r = Lst.dedupBy (· == ·) ([sP, sW].flatMap (fun s => [verO, verY].flatMap (fun fr =>
      (C11.admitted demoCtx kState vState ((s.fields.get kState).getD []) fr).map
        (fun u => fr ++ '/' :: u)))) ∧
    ∀ x, x ∈ r ↔ ∃ s ∈ [sP, sW], ∃ fr ∈ [verO, verY],
      ∃ u ∈ C11.admitted demoCtx kState vState ((s.fields.get kState).getD []) fr, x = fr ++ '/' :: u :=
  C11.c11_const_find_all dAll hwf wA cStr [sP, sW] 1 kState vState 0
    ex_unfold_c ex_route_c ex_f1 (by decide +kernel)
    (fun s => (s.fields.get kState).getD []) (fun _ => [verO, verY])
    (fun s hs => ex_answers s (List.mem_append_left [sK] hs))

/-- `ex_find_all_c` without the list form -/
theorem ex_all_c_spec : ∃ r, dAll.findInAll wA cStr = .ok r ∧ r.Nodup ∧
    ∀ x, x ∈ r ↔ ∃ s ∈ [sP, sW], ∃ fr ∈ [verO, verY],
      ∃ u ∈ C11.admitted demoCtx kState vState ((s.fields.get kState).getD []) fr, x = fr ++ '/' :: u := by
  obtain ⟨r, h1, h2, _, h4⟩ := ex_find_all_c
  exact ⟨r, h1, h2, h4⟩

/-- … explicitly: every found version in both states, whatever files exist (states are constants) -/
theorem ex_all_c : dAll.findInAll wA cStr = .ok rOr := by
  obtain ⟨r, h1, _, h3, _⟩ := ex_find_all_c
  rw [h1, h3]
  exact congrArg Except.ok (by decide +kernel)

/-! ### (2c) continued: the key itself searched, "hamlet/a/char/*/model/*/*" -/

theorem ex_unfold_k : demoCtx.unfoldSearch kStr false false = .ok [sK] :=
  okIs_eq _ _ (by decide +kernel)

theorem ex_all_k : dAll.findInAll wA kStr = .ok rStar := by
  obtain ⟨r, h1, _, h3, _⟩ := C11.c11_const_find_all dAll hwf wA kStr [sK] 1 kState vState 0
    ex_unfold_k (by decide +kernel) ex_f1 (by decide +kernel)
    (fun s => (s.fields.get kState).getD []) (fun _ => [verO, verY])
    (fun s hs => ex_answers s (List.mem_append_right [sP, sW] hs))
  rw [h1, h3]
  exact congrArg Except.ok (by decide +kernel)

/-! ### (3) the fuel -/

/-- the shipped data configuration (and the one-finder configuration of `C11bExamples`) have valid,
    acyclic parent chains -/
theorem ex_chain : dAll.data.chainOk = true := by decide +kernel
theorem ex_chain_paths : demoD.data.chainOk = true := by decide +kernel

/-- hence more fuel changes no answer of any Finder, on any tree, for any searches -/
theorem ex_fuel (w : World) (i k : Nat) (ss : List Sid) :
    dAll.finderDoFind w (dAll.fuel + k) i ss = dAll.finderDoFind w dAll.fuel i ss :=
  C11.c11_fuel dAll w ex_chain i k ss

/-- a dangling parent index is refused -/
theorem ex_chain_dangling :
    (⟨[.constants kState vState (some 3)], [], none, [], true⟩ : DataConf).chainOk = false := by
  decide +kernel

/-- a cycle is refused -/
theorem ex_chain_cycle :
    (⟨[.constants kState vState (some 1), .constants kAssettype vAssettype (some 0)], [], none, [],
      true⟩ : DataConf).chainOk = false := by
  decide +kernel

/-- the fuel-exhaustion branch of the model IS reachable with too little fuel (so `c11_fuel` says
    something): with fuel 2 the states Finder cannot ask its parent source -/
theorem ex_fuel_too_small : dAll.finderDoFind wA 2 1 [sW] = .error .other := by
  rw [finderDoFind_constants dAll wA 1 1 kState vState (some 0) ex_f1,
    doFindWith_star dAll _ _ (by simp) (by decide +kernel)]
  obtain ⟨rp, hp, _, _, _, _, hall⟩ := C11.c11_const_parent dAll wA 1 kState vState hwf sW sW
    (ex_cs sW (by simp)) (by decide +kernel) (by decide +kernel) (by decide +kernel)
  have hp' : dAll.ctx.parent sW = .ok vSid := ex_parent sW (by simp)
  rw [hp'] at hp
  cases hp
  -- `Finder.find` of the parent source gets as far as its `do_find` (`ex_versions`), which has no fuel
  obtain ⟨ss, _, hss⟩ := findVia_of_ok dAll.ctx _ (dAll.finderDoFind wA 0 0) vSid _ ex_versions
  rw [hall 0, finderFind_succ, hss, DCtx.finderDoFind.eq_1]

/-! ### two remarks, kernel-checked -/

/-- the same table with the states Finder knowing only the value "w" -/
def dW : DCtx := ⟨demoCtx, ⟨[.paths none, .constants ['s','t','a','t','e'] [['w']] (some 0)],
  [(['a','s','s','e','t','_','_','s','t','a','t','e'], 1)], some 0, [], true⟩⟩
/-- "hamlet/a/char/*/model/*/p" -/
def pStr : Str := ['h','a','m','l','e','t','/','a','/','c','h','a','r','/','*','/','m','o','d','e','l','/','*','/','p']
def rP : List Str := [['h','a','m','l','e','t','/','a','/','c','h','a','r','/','o','p','h','e','l','i','a','/','m','o','d','e','l','/','v','0','0','1','/','p'], ['h','a','m','l','e','t','/','a','/','c','h','a','r','/','y','o','r','i','c','k','/','m','o','d','e','l','/','v','0','0','2','/','p']]

/-- two types `t1`, `t2` with the same sid pattern "{.}/{.}" and the roots /r1, /r2 -/
def twoCtx : Ctx :=
  { cfg := { sid := { sep := ['_','_'], searchSymbols := [['*']],
                      templates := [(['t','1'], [.ph ['a'] (Re.star Cls.notSlash), .lit ['/'], .ph ['b'] (Re.star Cls.notSlash)]),
                                    (['t','2'], [.ph ['c'] (Re.star Cls.notSlash), .lit ['/'], .ph ['e'] (Re.star Cls.notSlash)])],
                      keyTypes := [(['t','1'], [['a'], ['b']]), (['t','2'], [['c'], ['e']])], leafKeys := [],
                      extensionAlias := [], basetypedNarrowing := [], typedNarrowing := [] }
             paths := [{ name := ['l'],
                         templates := [(['t','1'], [.lit ['/','r','1','/'], .ph ['a'] (Re.star Cls.notSlash), .lit ['/'], .ph ['b'] (Re.star Cls.notSlash)]),
                                       (['t','2'], [.lit ['/','r','2','/'], .ph ['c'] (Re.star Cls.notSlash), .lit ['/'], .ph ['e'] (Re.star Cls.notSlash)])],
                         mapping := [], defaults := [], searchMapping := [] }]
             defaultPath := ['l'], dataSuffix := [] }
    env := { isDigit := fun _ => false } }
def twoD : DCtx := ⟨twoCtx, ⟨[.paths none], [], some 0, [], true⟩⟩
def twoW : World := ⟨[(['/','r','1','/','x','/','f','o','o'], .file), (['/','r','2','/','x','/','f','o','o'], .file)], []⟩
def two1 : Sid := ⟨['x','/','*'], ['t','1'], [(['a'], ['x']), (['b'], ['*'])]⟩
def two2 : Sid := ⟨['x','/','*'], ['t','2'], [(['c'], ['x']), (['e'], ['*'])]⟩

theorem ex_unfold_p : demoCtx.unfoldSearch pStr false false = .ok [sP] :=
  okIs_eq _ _ (by decide +kernel)

/-- the same path search under the other data configuration (`FSL.pathsDoFind_data`) -/
theorem ex_foundW : dW.finderFind wA (2 * dW.data.finders.length + 1) 0 vSid = .ok [verO, verY] := by
  -- two finders: the fuel is 2 * 2 + 1 = 3 + 2
  show dW.finderFind wA (3 + 2) 0 vSid = _
  rw [finderFind_succ, findVia_congr dW.ctx _ _ (fun ss => finderDoFind_paths dW wA 3 0 none rfl ss) vSid]
  exact (congrArg (findVia demoCtx · vSid) (FSL.pathsDoFind_data demoCtx _ dAll.data wA none)).trans
    ex_versions

/-- REMARK 1 (the proviso at `C11.admitted`): a FIXED value of the key is not compared with the
    constants.  The states Finder of `dW` knows only "w", yet `FindInAll` answers the search
    "hamlet/a/char/*/model/*/p" with the state "p" of every version found (`found_root / value`
    in `FindInConstants.star_search` never consults `self.values`).  The oracle of the harness reads
    "admitted" as `values ∩ alternatives` and would expect nothing here; the two readings coincide
    on every configuration whose key pattern admits exactly the constants, as the shipped one. -/
theorem ex_fixed_value_not_checked : dW.findInAll wA pStr = .ok rP := by
  obtain ⟨r, h1, _, h3, _⟩ := C11.c11_const_find_all dW hwf wA pStr [sP] 1 kState [['w']] 0
    ex_unfold_p (by decide +kernel) rfl (by decide +kernel)
    (fun _ => ['p']) (fun _ => [verO, verY])
    (fun s hs => by
      simp only [List.mem_singleton] at hs
      subst hs
      exact ⟨sP, vSid, ex_cs sP (by simp), by decide +kernel, by decide +kernel, by decide +kernel,
        by decide +kernel, by decide +kernel, fun h => absurd h (by decide), ex_parent sP (by simp),
        ex_foundW, fun fr hfr => ex_foundOk _ fr hfr⟩)
  rw [h1, h3]
  exact congrArg Except.ok (by decide +kernel)

/-- REMARK 2 (`hnd` of `c11_all_eq_paths` is needed): `FindInPaths.do_find(as_sid=False)` CAN yield
    a string twice — two typed searches with the same string, of two types whose Sids have the same
    string: the star search de-duplicates paths and Sids, not strings — and `FindInAll` removes the
    second one -/
theorem c11_nodup_needed :
    twoCtx.sidOfString (['t','1',':'] ++ two1.string) = .ok two1 ∧
    twoCtx.sidOfString (['t','2',':'] ++ two2.string) = .ok two2 ∧
    twoD.pathsStarSids twoW none [two1, two2] =
      .ok [⟨['x','/','f','o','o'], ['t','1'], [(['a'], ['x']), (['b'], ['f','o','o'])]⟩,
           ⟨['x','/','f','o','o'], ['t','2'], [(['c'], ['x']), (['e'], ['f','o','o'])]⟩] ∧
    twoD.pathsDoFind twoW none [two1, two2] = .ok [['x','/','f','o','o'], ['x','/','f','o','o']] ∧
    Lst.dedupBy (· == ·) [['x','/','f','o','o'], ['x','/','f','o','o']] = [['x','/','f','o','o']] :=
  ⟨okIs_eq _ _ (by decide +kernel), okIs_eq _ _ (by decide +kernel), okIs_eq _ _ (by decide +kernel),
   okIs_eq _ _ (by decide +kernel), by decide +kernel⟩

end C11cEx
