/-
  Spil.Props.C18 — "get_last, get_next and get_new implement a gap-free version workflow":
  the version arithmetic of the demo `NextGetter` and its agreement with string order, for every
  version number below 1000 (three digits).
-/
import Spil.Lemmas.Ver

namespace C18

/-- below 1000 the rendering has exactly three ASCII digits and reads back as the number -/
theorem c18_pad3 (n : Nat) (h : n < 1000) :
    (Str.pad3 n).length = 3 ∧ (∀ ch ∈ Str.pad3 n, '0' ≤ ch ∧ ch ≤ '9') ∧ DCtx.parseNat (Str.pad3 n) = some n :=
  ⟨Str.pad3_length n h, Str.pad3_digits n h, DCtx.parseNat_pad3 n h⟩

/-- from 1000 on the rendering is wider than the configured three-digit pattern: the "last
    representable version" is 999 -/
theorem c18_pad3_wide (n : Nat) (h : 1000 ≤ n) : 4 ≤ (Str.pad3 n).length :=
  Str.pad3_wide n h

/-- string order on rendered versions is numeric order (so the greatest existing version found by
    the '>' search is the numerically last one) -/
theorem c18_order (n m : Nat) (hn : n < 1000) (hm : m < 1000) :
    Str.lt (fmtV n) (fmtV m) = true ↔ n < m := by
  rw [← Str.lt_pad3 n m hn hm]
  simp [fmtV, Str.lt]

/-- distinct numbers render differently: versions are never reused -/
theorem c18_inj (n m : Nat) (hn : n < 1000) (hm : m < 1000) (h : fmtV n = fmtV m) : n = m := by
  have h' : Str.pad3 n = Str.pad3 m := by simpa [fmtV] using h
  have := DCtx.parseNat_pad3 n hn
  rw [h', DCtx.parseNat_pad3 m hm] at this
  exact (Option.some.inj this).symm

/-- `get_next` on a Sid whose version is `v` + three digits of value `n`: the same Sid with the
    version replaced by the rendering of `n + 1` (whatever `get_with` makes of it: beyond 999 the
    pattern rejects it and the result is the empty Sid) -/
theorem c18_next_concrete (d : DCtx) (w : World) (x : Sid) (n : Nat) (hn : n < 1000)
    (hv : x.fields.get vkey = some (fmtV n)) :
    d.getNext w x = d.ctx.getWithKw x [(vkey, some (fmtV (n + 1)))] := by
  rw [DCtx.getNext, DCtx.nextVersion_eq, DCtx.versionDigits_concrete d w x n hn hv]
  exact DCtx.fromDigits_pad3 d x n hn

/-- `get_next` on a Sid without version: the first version is appended -/
theorem c18_next_missing (d : DCtx) (w : World) (x : Sid)
    (hv : x.fields.get vkey = none ∨ x.fields.get vkey = some []) :
    d.getNext w x = d.ctx.getWithKw x [(vkey, some (fmtV 1))] := by
  rw [DCtx.getNext, DCtx.nextVersion_eq, DCtx.versionDigits_missing d w x hv]
  exact DCtx.fromDigits_zero d x

/-- `get_next` on a search version ('*' or '>'): the successor of the last existing one, or the
    first version when none exists -/
theorem c18_next_search (d : DCtx) (w : World) (x : Sid) (l : Sid) (n : Nat) (hn : n < 1000)
    (hv : x.fields.get vkey = some ['*'] ∨ x.fields.get vkey = some ['>'])
    (hl : d.getLast w x (some vkey) = .ok l)
    (hlv : l.fields.get vkey = some (fmtV n) ∨ (l.fields.get vkey = none ∧ n = 0)) :
    d.getNext w x = d.ctx.getWithKw x [(vkey, some (fmtV (n + 1)))] := by
  rw [DCtx.getNext, DCtx.nextVersion_eq, DCtx.versionDigits_search d w x l n hn hv hl hlv]
  exact DCtx.fromDigits_pad3 d x n hn

/-- `get_new` is `get_next` of the last existing version when there is one -/
theorem c18_new (d : DCtx) (w : World) (x : Sid) (l : Sid) (v : Str) (hx : x.fields.get vkey = some v) (hv : v ≠ [])
    (hl : d.getLast w x (some vkey) = .ok l) :
    d.getNew w x = if l.typed then d.getNext w l else d.getNext w x := by
  unfold vkey at hx hl
  have he : (!v.isEmpty) = true := by rw [List.isEmpty_eq_false_iff.2 hv]; rfl
  simp only [DCtx.getNew, hx, he, if_true, hl]

end C18
