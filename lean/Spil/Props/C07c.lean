/-
  Spil.Props.C07c — C07 END TO END for query-free search expressions: `unfold_search(s)` returns
  exactly the narrowed typed searches the syntax denotes (`Spec.Denotes`), without duplicates, and
  fails with SpilException on the malformed expressions (`Spec.Malformed`), otherwise only where
  `type_narrow` fails on a denoted search (only SpilException under `narrowOk`: `c07_unfold`, C07d).
  Everything is read off ONE statement, `DenL.unfold_spec` (Lemmas/DenoteUnfold); the theorems here
  are its faces.
  `type_narrow` stays the model function in the statements (configured narrowing: `c07_narrow`, C07d).
-/
import Spil.Spec.Denote
import Spil.Lemmas.DenoteUnfold
import Spil.Props.C07a

namespace C07

open Spec Ctx DenL

variable (c : Ctx)

/-!
  The hypotheses (`Spec.ConfOk`, `Spec.ExprOk`, or their fields spelled out) are all needed.
  Counterexamples: for `hr` at `c07_simple_typing` in C07b, for `hal` and `hnk` in
  `Spil.Props.C10bExamples` (`cex_alias_*`, `cex_empty_narrow`).
  * `hnk` (no narrowing configured for the empty type name) is a model artefact: the untyped Sid
    has type `""` in the model and `None` in Python.
  * `hr` (no plain string starts with "/*", see `c07_simple_typing_rootless`) has the decidable
    sufficient condition `rootedB` (`DenL.rooted_of_dec`).
-/

/-- the ONLY errors: SpilException exactly on malformed expressions; on a well-formed expression
    `unfold_search` fails only if `type_narrow` fails on one of the denoted searches, with that error -/
theorem c07_unfold_errors (hwf : sidHierOk c.env c.cfg.sid.templates = true)
    (hal : aliasOk c.cfg.sid = true) (hnk : c.cfg.sid.typedNarrowing.lookup [] = none)
    (s : Str) (hq : '?' ∉ s) (hc : ':' ∉ s)
    (hm : Str.isInfix startMark s = false) (hr : Rooted c s)
    (e : Err) (h : c.unfoldSearch s false false = .error e) :
    (Malformed c s ∧ e = .spil) ∨
    (¬ Malformed c s ∧ ∃ y, Denotes c s y ∧ c.typeNarrow y = .error e) := by
  have hsp := unfold_spec c ⟨hwf, hal, hnk⟩ s ⟨hq, hc, hm, hr⟩
  by_cases hmal : Malformed c s
  · rw [hsp.malformed hmal] at h
    cases h
    exact Or.inl ⟨hmal, rfl⟩
  · exact Or.inr ⟨hmal, hsp.error_inv hmal e h⟩

/-- a successful `unfold_search` was given a well-formed expression -/
theorem c07_unfold_wellformed (hC : ConfOk c) (s : Str) (hS : ExprOk c s)
    (r : List Sid) (h : c.unfoldSearch s false false = .ok r) : ¬ Malformed c s :=
  (unfold_spec c hC s hS).wellformed r h

/-- SOUNDNESS and COMPLETENESS (up to Sid equality: `__eq__` compares uris; the results went
    through a Python `set`) of a successful `unfold_search` -/
theorem c07_unfold_results (hC : ConfOk c) (s : Str) (hS : ExprOk c s)
    (r : List Sid) (h : c.unfoldSearch s false false = .ok r) :
    (∀ x ∈ r, Narrowed c s x) ∧
    (∀ x, Narrowed c s x → ∃ x' ∈ r, x'.uri = x.uri ∧ x'.type = x.type ∧ x'.string = x.string) :=
  ⟨(unfold_spec c hC s hS).sound r h, (unfold_spec c hC s hS).complete r h⟩

/-- a malformed expression (two "/**" in one alternative, or a "/**" whose root has no leaf key)
    raises SpilException -/
theorem c07_unfold_malformed (hwf : sidHierOk c.env c.cfg.sid.templates = true)
    (hal : aliasOk c.cfg.sid = true) (s : Str) (hq : '?' ∉ s) (hc : ':' ∉ s)
    (hm : Str.isInfix startMark s = false) (hr : Rooted c s) (hmal : Malformed c s) :
    c.unfoldSearch s false false = .error .spil :=
  (unfold_stages c hwf hal s hq hc ((Str.isInfix_eq_false_iff _ _).1 hm) hr).1 hmal

/-- totality: a well-formed expression on whose denoted searches `type_narrow` succeeds unfolds -/
theorem c07_unfold_ok (hwf : sidHierOk c.env c.cfg.sid.templates = true)
    (hal : aliasOk c.cfg.sid = true) (hnk : c.cfg.sid.typedNarrowing.lookup [] = none)
    (s : Str) (hq : '?' ∉ s) (hc : ':' ∉ s)
    (hm : Str.isInfix startMark s = false) (hr : Rooted c s)
    (hmal : ¬ Malformed c s) (hn : ∀ y, Denotes c s y → ∃ x, c.typeNarrow y = .ok x) :
    ∃ r, c.unfoldSearch s false false = .ok r :=
  (unfold_spec c ⟨hwf, hal, hnk⟩ s ⟨hq, hc, hm, hr⟩).total hmal hn

/-- SOUNDNESS: every result is the narrowing of a denoted typed search, typed and query-free -/
theorem c07_unfold_sound (hwf : sidHierOk c.env c.cfg.sid.templates = true)
    (hal : aliasOk c.cfg.sid = true) (hnk : c.cfg.sid.typedNarrowing.lookup [] = none)
    (s : Str) (hq : '?' ∉ s) (hc : ':' ∉ s)
    (hm : Str.isInfix startMark s = false) (hr : Rooted c s)
    (r : List Sid) (h : c.unfoldSearch s false false = .ok r) (x : Sid) (hx : x ∈ r) :
    ∃ y, Denotes c s y ∧ c.typeNarrow y = .ok x ∧ x.typed = true ∧ '?' ∉ x.string :=
  (c07_unfold_results c ⟨hwf, hal, hnk⟩ s ⟨hq, hc, hm, hr⟩ r h).1 x hx

/-- COMPLETENESS: the narrowing of every denoted typed search, when typed and query-free, is among
    the results — as a Sid, i.e. up to Sid equality (`__eq__` compares uris; the results went
    through a Python `set`) -/
theorem c07_unfold_complete (hwf : sidHierOk c.env c.cfg.sid.templates = true)
    (hal : aliasOk c.cfg.sid = true) (hnk : c.cfg.sid.typedNarrowing.lookup [] = none)
    (s : Str) (hq : '?' ∉ s) (hc : ':' ∉ s)
    (hm : Str.isInfix startMark s = false) (hr : Rooted c s)
    (r : List Sid) (h : c.unfoldSearch s false false = .ok r)
    (y x : Sid) (hd : Denotes c s y) (hyx : c.typeNarrow y = .ok x)
    (ht : x.typed = true) (hxq : '?' ∉ x.string) :
    ∃ x' ∈ r, x'.uri = x.uri ∧ x'.type = x.type ∧ x'.string = x.string :=
  (c07_unfold_results c ⟨hwf, hal, hnk⟩ s ⟨hq, hc, hm, hr⟩ r h).2 x ⟨y, hd, hyx, ht, hxq⟩

/-- C07 END TO END, as a set of Sids (a Python set of Sids is a set of uris): the uris of the
    results are exactly the uris of the typed, query-free narrowings of the denoted searches -/
theorem c07_unfold_uris (hC : ConfOk c) (s : Str) (hS : ExprOk c s)
    (r : List Sid) (h : c.unfoldSearch s false false = .ok r) (u : Str) :
    u ∈ r.map Sid.uri ↔
      ∃ y x, Denotes c s y ∧ c.typeNarrow y = .ok x ∧ x.typed = true ∧ '?' ∉ x.string ∧ x.uri = u :=
  unfold_map c Sid.uri HierL.uri_congr hC s hS r h u

/-- the STRINGS of the results (what a Finder's star search is given) -/
theorem c07_unfold_strings (hC : ConfOk c) (s : Str) (hS : ExprOk c s)
    (r : List Sid) (h : c.unfoldSearch s false false = .ok r) (p : Str) :
    p ∈ r.map (·.string) ↔
      ∃ y x, Denotes c s y ∧ c.typeNarrow y = .ok x ∧ x.typed = true ∧ '?' ∉ x.string ∧ x.string = p :=
  unfold_map c (·.string) (fun _ _ _ h => h) hC s hS r h p

/-- no duplicates: no two results are equal as Sids (share a uri) -/
theorem c07_unfold_nodup (s : Str) (r : List Sid) (h : c.unfoldSearch s false false = .ok r) :
    r.Pairwise (fun a b => a.uri ≠ b.uri) := by
  obtain ⟨l, rfl⟩ := unfoldSearch_inv c s false false r h
  exact List.Pairwise.sublist List.filter_sublist (c07_sort_nodup l).1

/-- C07 END TO END, exact membership: when narrowing returns canonically typed Sids
    (`NarrowCanon`, discharged by `c07_narrow_canon` for the configured `key=~value` narrowing),
    `x ∈ unfold_search(s)` iff `x` is the typed, query-free narrowing of a denoted search -/
theorem c07_unfold_mem (hC : ConfOk c) (s : Str) (hS : ExprOk c s) (hcan : NarrowCanon c s)
    (r : List Sid) (h : c.unfoldSearch s false false = .ok r) (x : Sid) :
    x ∈ r ↔ Narrowed c s x := by
  obtain ⟨hsound, hcomp⟩ := c07_unfold_results c hC s hS r h
  refine ⟨hsound x, fun hn => ?_⟩
  obtain ⟨x', hx', hu, _⟩ := hcomp x hn
  obtain ⟨y, hd, hyx, ht, hxq⟩ := hn
  obtain ⟨y', hd', hyx', ht', hxq'⟩ := hsound x' hx'
  rw [← wellTyped_uri_inj c hC.wf x x' (hcan y x hd hyx ht hxq) (hcan y' x' hd' hyx' ht' hxq') hu]
  exact hx'

end C07
