/-
  Spil.Props.C10b — the algebra of the search syntax (C10) on SEARCH EXPRESSIONS: (or), (alias), ("/**")
  as equalities of the SETS `unfold_search` returns (a Python set of Sids is a set of uris: `Sid.__eq__`
  compares uris) and of the sets list search (`FindInList.find`) returns; (literal) as an inclusion.
  A rule is ONE fact about denotation (`C10.Covers`, Lemmas/DenoteAlg: the expressions `S i` together
  denote what `s` denotes); `DenL.unfold_union` lifts it to `unfold_search`, `DenL.find_union` to list
  search (Lemmas/DenoteUnfold).
-/
import Spil.Spec.Denote
import Spil.Lemmas.DenoteStars
import Spil.Props.C07c
import Spil.Props.C10c

namespace C10

open Spec Ctx DenL ExpL

variable (c : Ctx)

/-! ### (or) -/

/-- (or), denotation: a ',' list in segment `i` denotes the union over its alternatives -/
theorem c10_or_denotes (s : Str) (i : Nat) (hi : i < (Str.splitOn '/' s).length) (y : Sid) :
    Denotes c s y ↔ ∃ alt ∈ altsOf (segAt s i), Denotes c (setSeg s i alt) y :=
  exists_picks_cover (picks_or c s i hi) (DenotesPlain c · y)

/-- (or), `unfold_search`: when the expression unfolds, so does every expression obtained by
    choosing one alternative of segment `i`, and the Sids (uris) returned for the expression are
    the union of those returned for the alternatives:
    `find(…a,b…) = find(…a…) ∪ find(…b…)` at the level of the search Sids -/
theorem c10_or (hC : ConfOk c) (s : Str) (hS : ExprOk c s) (i : Nat)
    (hi : i < (Str.splitOn '/' s).length)
    (r : List Sid) (h : c.unfoldSearch s false false = .ok r) :
    (∀ alt ∈ altsOf (segAt s i), ∃ r', c.unfoldSearch (setSeg s i alt) false false = .ok r') ∧
    ∀ u, u ∈ r.map Sid.uri ↔
      ∃ alt ∈ altsOf (segAt s i), ∃ r', c.unfoldSearch (setSeg s i alt) false false = .ok r' ∧
        u ∈ r'.map Sid.uri :=
  unfold_union c Sid.uri HierL.uri_congr hC s hS (or_covers c s hS i hi) r h

/-- (or), strings of the search Sids -/
theorem c10_or_strings (hC : ConfOk c) (s : Str) (hS : ExprOk c s) (i : Nat)
    (hi : i < (Str.splitOn '/' s).length)
    (r : List Sid) (h : c.unfoldSearch s false false = .ok r) (p : Str) :
    p ∈ r.map (·.string) ↔
      ∃ alt ∈ altsOf (segAt s i), ∃ r', c.unfoldSearch (setSeg s i alt) false false = .ok r' ∧
        p ∈ r'.map (·.string) :=
  (unfold_union c (·.string) (fun _ _ _ h => h) hC s hS (or_covers c s hS i hi) r h).2 p

/-- (or), exact Sids: under `NarrowCanon` (narrowing returns canonically typed Sids) the union is
    one of Sid VALUES (type, string and fields) -/
theorem c10_or_mem (hC : ConfOk c) (s : Str) (hS : ExprOk c s) (hcan : NarrowCanon c s) (i : Nat)
    (hi : i < (Str.splitOn '/' s).length)
    (r : List Sid) (h : c.unfoldSearch s false false = .ok r) (x : Sid) :
    x ∈ r ↔ ∃ alt ∈ altsOf (segAt s i), ∃ r', c.unfoldSearch (setSeg s i alt) false false = .ok r' ∧
      x ∈ r' := by
  have hcan' : ∀ alt ∈ altsOf (segAt s i), NarrowCanon c (setSeg s i alt) :=
    fun alt halt y x hd => hcan y x ((c10_or_denotes c s i hi y).2 ⟨alt, halt, hd⟩)
  have hmem' := fun alt halt r' hr' => C07.c07_unfold_mem c hC _ ((or_covers c s hS i hi).exprOk hS alt halt)
    (hcan' alt halt) r' hr' x
  rw [C07.c07_unfold_mem c hC s hS hcan r h x]
  constructor
  · rintro ⟨y, hd, rest⟩
    obtain ⟨alt, halt, hd'⟩ := (c10_or_denotes c s i hi y).1 hd
    obtain ⟨r', hr'⟩ := (c10_or c hC s hS i hi r h).1 alt halt
    exact ⟨alt, halt, r', hr', (hmem' alt halt r' hr').2 ⟨y, hd', rest⟩⟩
  · rintro ⟨alt, halt, r', hr', hx⟩
    obtain ⟨y, hd, rest⟩ := (hmem' alt halt r' hr').1 hx
    exact ⟨y, (c10_or_denotes c s i hi y).2 ⟨alt, halt, hd⟩, rest⟩

/-! ### (alias) -/

/-- (alias), denotation: an alias as last segment denotes what the ',' list of its extensions
    denotes.  Needs `aliasFlat`: no extension is itself an alias name (aliases are not expanded
    recursively; counterexample in `Spil.Props.C10bExamples`). -/
theorem c10_alias_denotes (hC : ConfOk c) (hfl : aliasFlat c.cfg.sid = true) (s : Str)
    (vs : List Str) (hcm : ',' ∉ lastSeg s)
    (hl : c.cfg.sid.extensionAlias.lookup (lastSeg s) = some vs) (y : Sid) :
    Denotes c s y ↔ Denotes c (setSeg s (lastIdx s) (Str.joinWith ',' vs)) y :=
  exists_congr fun a => and_congr_left fun _ => picks_alias c hC.alias hfl s vs hcm hl a

/-- (alias), `unfold_search`: the expression with the alias written out as the ',' list of its
    extensions unfolds to the same set of Sids (uris) -/
theorem c10_alias (hC : ConfOk c) (hfl : aliasFlat c.cfg.sid = true) (s : Str) (hS : ExprOk c s)
    (vs : List Str) (hcm : ',' ∉ lastSeg s)
    (hl : c.cfg.sid.extensionAlias.lookup (lastSeg s) = some vs)
    (r : List Sid) (h : c.unfoldSearch s false false = .ok r) :
    ∃ r', c.unfoldSearch (setSeg s (lastIdx s) (Str.joinWith ',' vs)) false false = .ok r' ∧
      ∀ u, u ∈ r.map Sid.uri ↔ u ∈ r'.map Sid.uri :=
  unfold_same c Sid.uri HierL.uri_congr hC s _ hS (alias_exprOk c hC.alias hfl s hS vs hcm hl)
    (picks_alias c hC.alias hfl s vs hcm hl) r h

/-! ### ("/**") -/

/-- ("/**"), denotation.  For an expression `x/**/b` whose "**" is a whole segment, not the last
    one, and the only "/**" (also in every plain string the expression stands for):
    the expression denotes the UNION over the numbers `k ≥ 0` of levels of what `x` + k × "/*" + `/b`
    denotes, RESTRICTED TO LEAF TYPES (the last key is the leaf key of the basetype of the root,
    the root being the levels of `x`). -/
theorem c10_stars_denotes (x b : Str)
    (h1 : Str.count (x ++ slashStars ++ '/' :: b) slashStars = 1)
    (hp1 : ∀ a, Picks c (x ++ slashStars ++ '/' :: b) a → Str.count a slashStars = 1) (y : Sid) :
    Denotes c (x ++ slashStars ++ '/' :: b) y ↔
      ∃ k, Denotes c (fill (x ++ slashStars ++ '/' :: b) k) y ∧
        LeafTyped c (Str.splitOn '/' x).length y := by
  constructor
  · rintro ⟨a, hpa, hda⟩
    have hca := hp1 a hpa
    obtain ⟨u, w, rfl, htake⟩ := picks_slashStars_inv c x b a hpa
    obtain ⟨lk, k, hlk, p, hp, hleaf, hacc, rfl⟩ := (denotesPlain_one c _ y hca).1 hda
    have hfill := fill_at u ('/' :: w) k hca
    have hne := ExpL.fill_ne_nil _ hca (rootLeafKey_ne_nil hlk) k
    rw [rootOf_at u _ hca] at hlk
    exact ⟨k, ⟨_, (picks_fill c x b k h1 hp1 _).2 ⟨_, hpa, rfl⟩,
        (denotesPlain_zero c _ _ (count_fill_at u w k hca)).2 ⟨p, hp, hacc, hne, rfl⟩⟩,
      (leafTyped_typedAs c _ p _ u hacc (htake k (typedAs p.1 p.2 _) hfill)).2 ⟨lk, hlk, hleaf⟩⟩
  · rintro ⟨k, ⟨a', hpa', hda'⟩, hlt⟩
    obtain ⟨a, hpa, rfl⟩ := (picks_fill c x b k h1 hp1 a').1 hpa'
    have hca := hp1 a hpa
    obtain ⟨u, w, rfl, htake⟩ := picks_slashStars_inv c x b a hpa
    have hfill := fill_at u ('/' :: w) k hca
    obtain ⟨p, hp, hacc, _, rfl⟩ := (denotesPlain_zero c _ y (count_fill_at u w k hca)).1 hda'
    obtain ⟨lk, hlk, hleaf⟩ :=
      (leafTyped_typedAs c _ p _ u hacc (htake k (typedAs p.1 p.2 _) hfill)).1 hlt
    exact ⟨_, hpa, (denotesPlain_one c _ _ hca).2
      ⟨lk, k, by rw [rootOf_at u _ hca]; exact hlk, p, hp, hleaf, hacc, rfl⟩⟩

/-- ("/**"), `unfold_search`: the Sids returned for `x/**/b` are the narrowings of the LEAF-typed
    searches denoted by the expressions `x` + k × "/*" + `/b`, `k ≥ 0` -/
theorem c10_stars (hC : ConfOk c) (x b : Str) (hS : ExprOk c (x ++ slashStars ++ '/' :: b))
    (h1 : Str.count (x ++ slashStars ++ '/' :: b) slashStars = 1)
    (hp1 : ∀ a, Picks c (x ++ slashStars ++ '/' :: b) a → Str.count a slashStars = 1)
    (r : List Sid) (h : c.unfoldSearch (x ++ slashStars ++ '/' :: b) false false = .ok r) (u : Str) :
    u ∈ r.map Sid.uri ↔
      ∃ k y z, Denotes c (fill (x ++ slashStars ++ '/' :: b) k) y ∧
        LeafTyped c (Str.splitOn '/' x).length y ∧
        c.typeNarrow y = .ok z ∧ z.typed = true ∧ '?' ∉ z.string ∧ z.uri = u := by
  rw [C07.c07_unfold_uris c hC _ hS r h u]
  constructor
  · rintro ⟨y, z, hd, rest⟩
    obtain ⟨k, hd', hl⟩ := (c10_stars_denotes c x b h1 hp1 y).1 hd
    exact ⟨k, y, z, hd', hl, rest⟩
  · rintro ⟨k, y, z, hd', hl, rest⟩
    exact ⟨y, z, (c10_stars_denotes c x b h1 hp1 y).2 ⟨k, hd', hl⟩, rest⟩

/-! ### list search (`FindInList.find`, star searches) -/

/-- a proper search expression — it contains a search symbol of the configuration, or its last
    segment is an alias — is unfolded by `Finder.find` -/
theorem c10_agree_proper (hC : ConfOk c) (s : Str) (hS : ExprOk c s)
    (hp : c.isSearchStr s = true ∨
      (c.cfg.sid.extensionAlias.lookup (((Str.splitOn '/' s).getLast?).getD [])).isSome = true) :
    c.findSearches s = c.unfoldSearch s false false ∧ SearchesAgree c s := by
  have h := findSearches_proper c (HierL.hier_unpack _ _ hC.wf).1 s hS.noQuery hS.noColon hp
  exact ⟨h, fun r hr => ⟨r, by rw [h, hr], fun _ => Iff.rfl⟩⟩

/-- the SHORTCUT of `Finder.find`: a concrete typed string (no ',', no '*', no search symbol, last
    segment no alias) is not unfolded but handed to the star search as it is.  This agrees with
    unfolding when narrowing does not contradict the concrete values: every typing of the
    string is narrowed to a typed Sid with the SAME string (`hfix`).  (Known finding: a narrowing
    filter that contradicts a concrete value overrides it; then `hfix` fails and the shortcut and
    the unfolding differ.) -/
theorem c10_agree_concrete (hC : ConfOk c) (s : Str) (hS : ExprOk c s) (hcm : ',' ∉ s) (hst : '*' ∉ s)
    (hnal : c.cfg.sid.extensionAlias.lookup (((Str.splitOn '/' s).getLast?).getD []) = none)
    (hfix : ∀ y, Denotes c s y → ∃ x, c.typeNarrow y = .ok x ∧ x.typed = true ∧ x.string = s) :
    SearchesAgree c s := by
  obtain ⟨htab, _, _, _⟩ := HierL.hier_unpack _ _ hC.wf
  intro r hr
  have hsid := ExpL.sidOfString_plain c htab s hS.noQuery hS.noColon
  have hstr := ExpL.plainOf_string c s
  by_cases hshort : ((ExpL.plainOf c s).typed && !c.isSearch (ExpL.plainOf c s) &&
      !c.isAliasSearch (ExpL.plainOf c s) && !Str.hasChar '?' (ExpL.plainOf c s).string) = true
  · -- the shortcut is taken
    refine ⟨[ExpL.plainOf c s], by simp [Ctx.findSearches, hsid, hshort], fun p => ?_⟩
    simp only [List.map_cons, List.map_nil, List.mem_singleton, hstr]
    rw [C07.c07_unfold_strings c hC s hS r hr p]
    constructor
    · rintro rfl
      -- some template accepts the string: it denotes a typed search, which narrowing fixes
      have htyped : (ExpL.plainOf c p).typed = true := by
        cases h : (ExpL.plainOf c p).typed with
        | true => rfl
        | false => rw [h] at hshort; cases hshort
      rcases plainOf_typing c p hS.noQuery hS.noColon with ⟨q, hmem, hacc, hne, _⟩ | hlo
      · have hd : Denotes c p (typedAs q.1 q.2 p) :=
          ⟨p, picks_self c p hcm hnal, Or.inl ⟨count_stars_zero p hst, hne, q, hmem, hacc, rfl⟩⟩
        obtain ⟨x, hx, ht, hxs⟩ := hfix _ hd
        exact ⟨_, x, hd, hx, ht, hxs ▸ hS.noQuery, hxs⟩
      · rw [leftover_untyped hlo] at htyped
        cases htyped
    · rintro ⟨y, x, hd, hyx, _, _, rfl⟩
      obtain ⟨x', hx', _, hxs⟩ := hfix y hd
      rw [hyx] at hx'
      simp only [Except.ok.injEq] at hx'
      subst hx'
      exact hxs
  · -- no shortcut: the expression is unfolded
    exact ⟨r, by rw [findSearches_unfolds c s _ hsid (by simpa using hshort), hr], fun _ => Iff.rfl⟩

/-- list search on an unfolded star search: the entries of the list that glob-match the string of
    one of the unfolded search Sids (C08 composed with C07) -/
theorem c10_list_char (s : Str) (hag : SearchesAgree c s) (L : List Str)
    (r : List Sid) (h : c.unfoldSearch s false false = .ok r)
    (hgt : ∀ x ∈ r, '>' ∉ x.string) (hbr : ∀ x ∈ r, '[' ∉ x.string) :
    ∃ R, c.findInList ⟨L, false⟩ s = .ok R ∧ R.Nodup ∧
      ∀ x, x ∈ R ↔ (x ∈ L ∧ ∃ p ∈ r.map (·.string), Glob p x) :=
  findInList_agree c s hag L r h (not_mem_strings hgt) (not_mem_strings hbr)

/-- (or), list search: `find(…a,b…) = find(…a…) ∪ find(…b…)` for the alternatives of any segment,
    as sets of found entries; no duplicates.  Star searches only (no '>' in the unfolded searches);
    '[' is outside the glob model (K2).  `SearchesAgree` holds for every proper search expression
    (`c10_agree_proper`) and for concrete strings that narrowing leaves alone (`c10_agree_concrete`). -/
theorem c10_list_or (hC : ConfOk c) (s : Str) (hS : ExprOk c s) (i : Nat)
    (hi : i < (Str.splitOn '/' s).length) (L : List Str)
    (r : List Sid) (h : c.unfoldSearch s false false = .ok r)
    (hag : SearchesAgree c s) (hags : ∀ alt ∈ altsOf (segAt s i), SearchesAgree c (setSeg s i alt))
    (hgt : ∀ x ∈ r, '>' ∉ x.string) (hbr : ∀ x ∈ r, '[' ∉ x.string) :
    ∃ R, c.findInList ⟨L, false⟩ s = .ok R ∧ R.Nodup ∧
      ∀ x, x ∈ R ↔ ∃ alt ∈ altsOf (segAt s i), ∃ R',
        c.findInList ⟨L, false⟩ (setSeg s i alt) = .ok R' ∧ x ∈ R' := by
  obtain ⟨R, hR, hnd, _, hmem⟩ := find_union c hC s hS (or_covers c s hS i hi) L r h hag hags
    (not_mem_strings hgt) (not_mem_strings hbr)
  exact ⟨R, hR, hnd, hmem⟩

/-- (alias), list search: an alias as last segment finds what the ',' list of its extensions finds -/
theorem c10_list_alias (hC : ConfOk c) (hfl : aliasFlat c.cfg.sid = true) (s : Str) (hS : ExprOk c s)
    (vs : List Str) (hcm : ',' ∉ lastSeg s)
    (hl : c.cfg.sid.extensionAlias.lookup (lastSeg s) = some vs) (L : List Str)
    (r : List Sid) (h : c.unfoldSearch s false false = .ok r)
    (hag' : SearchesAgree c (setSeg s (lastIdx s) (Str.joinWith ',' vs)))
    (hgt : ∀ x ∈ r, '>' ∉ x.string) (hbr : ∀ x ∈ r, '[' ∉ x.string) :
    ∃ R R', c.findInList ⟨L, false⟩ s = .ok R ∧
      c.findInList ⟨L, false⟩ (setSeg s (lastIdx s) (Str.joinWith ',' vs)) = .ok R' ∧
      ∀ x, x ∈ R ↔ x ∈ R' := by
  obtain ⟨r', hr', hstr⟩ := unfold_same c (·.string) (fun _ _ _ h => h) hC s _ hS
    (alias_exprOk c hC.alias hfl s hS vs hcm hl) (picks_alias c hC.alias hfl s vs hcm hl) r h
  obtain ⟨R, hR, _, hmem⟩ := c10_list_char c s
    (c10_agree_proper c hC s hS (Or.inr (Option.isSome_iff_exists.2 ⟨vs, hl⟩))).2 L r h hgt hbr
  obtain ⟨R', hR', hmem'⟩ := findInList_sub c _ hag' L r r' hr' (fun p => (hstr p).2)
    (not_mem_strings hgt) (not_mem_strings hbr)
  exact ⟨R, R', hR, hR', fun x => by rw [hmem, hmem']; simp only [hstr]⟩

/-! ### (literal), list half only -/

/-- (literal) lifted to list search — PARTIAL.  Proved: if every search string unfolded from `s'`
    is a search string unfolded from `s` with one whole-segment '*' replaced by the literal `v`
    (`hpat`), then `find(s') ⊆ find(s)` on every list (C08 + `c10_literal`).
    MISSING: `hpat` itself for `s' = setSeg s i v`, i.e. that typing and narrowing commute with the
    replacement.  It needs two more conventions — every placeholder accepts "*" (otherwise a
    template may accept the literal but not the star: then `s'` finds entries and `s` none), and no
    typed narrowing keyed by a type that the literal selects — plus the decision table of
    `apply_query` (`C04.c04_apply_table`) on both sides; not done here. -/
theorem c10_literal_list_partial (s s' v : Str)
    (hv : ∀ ch ∈ v, ch ≠ '/' ∧ ch ≠ '*' ∧ ch ≠ '?' ∧ ch ≠ '[')
    (hag : SearchesAgree c s) (hag' : SearchesAgree c s') (L : List Str)
    (r r' : List Sid) (h : c.unfoldSearch s false false = .ok r)
    (h' : c.unfoldSearch s' false false = .ok r')
    (hpat : ∀ p' ∈ r'.map (·.string), ∃ a b, p' = a ++ v ++ b ∧ (a ++ '*' :: b) ∈ r.map (·.string) ∧
      (a = [] ∨ a.getLast? = some '/') ∧ (b = [] ∨ b.head? = some '/'))
    (hgt : ∀ x ∈ r, '>' ∉ x.string) (hbr : ∀ x ∈ r, '[' ∉ x.string)
    (hgt' : ∀ x ∈ r', '>' ∉ x.string) (hbr' : ∀ x ∈ r', '[' ∉ x.string) :
    ∃ R R', c.findInList ⟨L, false⟩ s = .ok R ∧ c.findInList ⟨L, false⟩ s' = .ok R' ∧
      ∀ x, x ∈ R' → x ∈ R := by
  obtain ⟨R, hR, _, hmem⟩ := c10_list_char c s hag L r h hgt hbr
  obtain ⟨R', hR', _, hmem'⟩ := c10_list_char c s' hag' L r' h' hgt' hbr'
  refine ⟨R, R', hR, hR', fun x hx => ?_⟩
  obtain ⟨hxL, p', hp', hg⟩ := (hmem' x).1 hx
  obtain ⟨a, b, rfl, hp, ha, hb⟩ := hpat p' hp'
  exact (hmem x).2 ⟨hxL, _, hp, c10_literal a b v x hv ha hb hg⟩

end C10
