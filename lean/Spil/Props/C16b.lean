/-
  Spil.Props.C16b — C16, the clause about GetFromAll: routing by type.

  `GetFromAll.get` unfolds the search, asks `spil_data_conf.get_getter_for` for the Getter of each
  typed search (the probed table: types configured with `None`, the shared default
  `GetFromPaths()` otherwise) and lets each Getter answer its searches.
-/
import Spil.Model.FS
import Spil.Lemmas.Find

namespace C16

variable (d : DCtx)

/-- the records `GetFromPaths().do_get(searches)` yields -/
def doGetPaths (w : World) (searches : List Sid) (attrs : List Str) (enc : DCtx.Enc) :
    Except Err (List (List (Str × Option Str))) :=
  match d.pathsDoFindSids w none searches with
  | .error e => .error e
  | .ok sids => Ctx.mapE (fun x => d.recordOf w none x attrs enc) sids

theorem doGetPaths_nil (w : World) (attrs : List Str) (enc : DCtx.Enc) :
    doGetPaths d w [] attrs enc = .ok [] := by
  unfold doGetPaths DCtx.pathsDoFindSids
  simp [Ctx.mapE]

/-- GetFromAll answers with exactly what the default Getter yields for the unfolded searches whose
    type has a Getter; searches of types configured without Getter contribute nothing -/
theorem c16_all_filter (w : World) (search : Str) (attrs : List Str) (enc : DCtx.Enc) (searches : List Sid)
    (hu : d.ctx.unfoldSearch search false false = .ok searches) :
    d.getFromAll w search attrs enc = doGetPaths d w (searches.filter d.hasGetter) attrs enc := by
  unfold DCtx.getFromAll
  rw [hu]
  simp only
  split
  · next h =>
    have : searches.filter d.hasGetter = [] := by simpa using h
    rw [this, doGetPaths_nil]
  · rfl

/-- "types configured without Getter yield nothing" -/
theorem c16_all_none (w : World) (search : Str) (attrs : List Str) (enc : DCtx.Enc) (searches : List Sid)
    (hu : d.ctx.unfoldSearch search false false = .ok searches)
    (h : ∀ x ∈ searches, d.hasGetter x = false) :
    d.getFromAll w search attrs enc = .ok [] := by
  rw [c16_all_filter d w search attrs enc searches hu]
  have : searches.filter d.hasGetter = [] := by
    rw [List.filter_eq_nil_iff]
    intro x hx
    simp [h x hx]
  rw [this, doGetPaths_nil]

/-- when every unfolded search has a Getter, GetFromAll().get IS GetFromPaths().get, record for
    record and in the same order, for every search expression that `Finder.find` unfolds the same
    way (every search that is not a concrete, query-free, alias-free Sid) -/
theorem c16_all_eq_paths (w : World) (search : Str) (attrs : List Str) (enc : DCtx.Enc) (searches : List Sid)
    (hu : d.ctx.unfoldSearch search false false = .ok searches)
    (hf : d.ctx.findSearches search = .ok searches)
    (h : ∀ x ∈ searches, d.hasGetter x = true) :
    d.getFromAll w search attrs enc = d.getFromPaths w none search attrs enc := by
  rw [c16_all_filter d w search attrs enc searches hu]
  have : searches.filter d.hasGetter = searches := by
    rw [List.filter_eq_self]
    exact h
  rw [this]
  unfold DCtx.getFromPaths doGetPaths
  rw [hf]
  rfl

/-- a search the Finder does NOT shortcut is unfolded by both in the same way -/
theorem c16_find_unfolds (search : Str) (sid : Sid) (hs : d.ctx.sidOfString search = .ok sid)
    (hsearch : (sid.typed && !d.ctx.isSearch sid && !d.ctx.isAliasSearch sid && !Str.hasChar '?' sid.string) = false) :
    d.ctx.findSearches search = d.ctx.unfoldSearch search false false :=
  Ctx.findSearches_unfolds d.ctx search sid hs hsearch

/-- `GetFromAll().get_data(sid)`: the default Getter's record, or nothing for a type without Getter -/
theorem c16_data_all (w : World) (x : Sid) (attrs : List Str) (enc : DCtx.Enc) :
    (d.hasGetter x = true → d.getDataAll w x attrs enc = d.getData w none x attrs enc) ∧
    (d.hasGetter x = false → d.getDataAll w x attrs enc = .ok []) := by
  unfold DCtx.getDataAll
  constructor
  · intro h; simp [h]
  · intro h; simp [h]

end C16
