/-
  Spil.Props.C18bExamples — non-vacuity of C18b on the SHIPPED configuration and the tree of
  C09bExamples (v001 and v002 of hamlet/a/char/ophelia/model/…/w/ma, other entities, a junk file):
  `get_last`, `get_new` evaluated by the kernel, the theorems instantiated with every hypothesis
  discharged, and on the model one publish (create) followed by `get_new` again.
-/
import Spil.Props.C18b
import Spil.Props.C09bExamples

namespace C18Ex

open Spec Generated C11Ex C09Ex C18

/-- "hamlet/a/char/ophelia/model/v003/w/ma" -/
def o3 : Sid :=
  ⟨['h','a','m','l','e','t','/','a','/','c','h','a','r','/','o','p','h','e','l','i','a','/','m','o','d','e','l','/','v','0','0','3','/','w','/','m','a'],
    ['a','s','s','e','t','_','_','f','i','l','e'],
    [(['p','r','o','j','e','c','t'], ['h','a','m','l','e','t']),
     (['t','y','p','e'], ['a']),
     (['a','s','s','e','t','t','y','p','e'], ['c','h','a','r']),
     (['a','s','s','e','t'], ['o','p','h','e','l','i','a']),
     (['t','a','s','k'], ['m','o','d','e','l']),
     (['v','e','r','s','i','o','n'], ['v','0','0','3']),
     (['s','t','a','t','e'], ['w']),
     (['e','x','t'], ['m','a'])]⟩
/-- "hamlet/a/char/ophelia/model/v004/w/ma" -/
def o4 : Sid :=
  ⟨['h','a','m','l','e','t','/','a','/','c','h','a','r','/','o','p','h','e','l','i','a','/','m','o','d','e','l','/','v','0','0','4','/','w','/','m','a'],
    ['a','s','s','e','t','_','_','f','i','l','e'],
    [(['p','r','o','j','e','c','t'], ['h','a','m','l','e','t']),
     (['t','y','p','e'], ['a']),
     (['a','s','s','e','t','t','y','p','e'], ['c','h','a','r']),
     (['a','s','s','e','t'], ['o','p','h','e','l','i','a']),
     (['t','a','s','k'], ['m','o','d','e','l']),
     (['v','e','r','s','i','o','n'], ['v','0','0','4']),
     (['s','t','a','t','e'], ['w']),
     (['e','x','t'], ['m','a'])]⟩


/-- `o1.get_last('version')` on the tree: the v002 file (C09bExamples, from `C09.c09_get_last`) -/
theorem ex_last : demoD.getLast w4 o1 (some vkey) = .ok o2 := ex_get_last_eval

/-- `c18_new_succ` instantiated (n = 2), every hypothesis discharged by the kernel … -/
theorem ex_new_succ : demoD.getNew w4 o1 = demoCtx.getWithKw o2 [(vkey, some (fmtV 3))] :=
  c18_new_succ demoD w4 o1 o2 ['v','0','0','1'] 2 (by decide) (by decide +kernel) (by decide) ex_last
    (by decide) (by decide +kernel)

/-- … and evaluated: `get_new` is the v003 file -/
theorem ex_new : demoD.getNew w4 o1 = .ok o3 := by
  rw [ex_new_succ]; exact okIs_eq _ _ (by decide +kernel)

/-- the segments before the version, and after it -/
def pre5 : List Str := [['h','a','m','l','e','t'], ['a'], ['c','h','a','r'], ['o','p','h','e','l','i','a'], ['m','o','d','e','l']]
def post2 : List Str := [['w'], ['m','a']]

theorem ex_segGe : segGe o2.string o1.string := by unfold segGe; decide +kernel

/-- `c18_last_is_max` instantiated: the answer of `get_last` (v002) against the other existing Sid
    of the group (v001); the statement is the bare conclusion, the content is that the hypotheses
    are met -/
theorem ex_max : 1 ≤ 2 :=
  c18_last_is_max o2.string o1.string pre5 post2 post2 2 1 (by decide) (by decide)
    (by decide +kernel) (by decide +kernel) ex_segGe

/-- `c18_new_fresh` instantiated: the v003 that `get_new` names is not the version of the existing v001 -/
theorem ex_fresh : fmtV 1 ≠ fmtV 3 :=
  c18_new_fresh o2.string o1.string pre5 post2 post2 2 1 (by decide) (by decide)
    (by decide +kernel) (by decide +kernel) ex_segGe

/-! ### two publishes in a row on the model -/

/-- the tree after `create(get_new(...))` -/
def w5 : World := match demoD.create w4 none o3.string none with | .ok (w, _) => w | .error _ => w4

/-- the creation succeeds (the new version did not exist) -/
theorem ex_create : (match demoD.create w4 none o3.string none with | .ok (_, b) => b | .error _ => false) = true := by
  decide +kernel

/-- the '>' search of `get_last` on the new tree: the v003 file just created -/
theorem ex_paths5 : demoD.pathsDoFind w5 none [lSid] = .ok [o3.string] := okIs_eq _ _ (by decide +kernel)

theorem ex_last5 : demoD.getLast w5 o1 (some vkey) = .ok o3 :=
  -- `C18.vkey` and `C09Ex.kVersion` are the same string "version"
  (ex_get_last_of w5 _ ex_paths5).trans (okIs_eq _ _ (by decide +kernel))

/-- asked again (still from the FIRST version), `get_new` is the successor of what was just created -/
theorem ex_new5 : demoD.getNew w5 o1 = .ok o4 := by
  rw [c18_new_succ demoD w5 o1 o3 ['v','0','0','1'] 3 (by decide) (by decide +kernel) (by decide) ex_last5
    (by decide) (by decide +kernel)]
  exact okIs_eq _ _ (by decide +kernel)

/-- the abstract store of that task and two abstract publishes: versions 3 and 4, as on the model -/
theorem ex_abstract : Workflow.publishN 2 [1, 2] = [4, 3, 1, 2] := by decide

/-- the refinement step instantiated with the abstract store [1, 2] -/
theorem ex_refines : demoD.getNew w4 o1 = demoCtx.getWithKw o2 [(vkey, some (fmtV (Workflow.new [1, 2])))] :=
  c18_step_refines demoD w4 o1 o2 ['v','0','0','1'] [1, 2] (by decide) (by decide) (by decide +kernel) (by decide)
    ex_last (by decide) (by decide +kernel)

end C18Ex
