/-
  Spil.Props.C04 — "Updating a Sid by query or get_with is all-or-nothing and never guesses"
  Spil.Props.C14 — "Sids are immutable values: equal means same uri" (the value part)
-/
import Spil.Lemmas.Upd

namespace C04

open Spec HierL

variable (c : Ctx)

/-- the overlay rule of `query_helper.update`, pointwise: a key the query does not mention keeps
    its value; a mentioned key takes the query value with every '~' removed, except that an
    optional ('~'-prefixed) value is ignored when the key is absent -/
theorem c04_update (data nd : Dict) (hn : (nd.map (·.1)).Nodup) (k : Str) :
    (Query.updateGo data nd).get k =
      match nd.get k with
      | none => data.get k
      | some v =>
        if Str.startsWith v ['~'] then (if data.hasKey k then some (v.filter (· != '~')) else none)
        else some v :=
  UpdL.updateGo_get nd hn data k

/-- the overlay never drops a key -/
theorem c04_update_keys (data nd : Dict) (k : Str) (h : data.hasKey k = true) :
    (Query.updateGo data nd).hasKey k = true :=
  UpdL.updateGo_hasKey nd data k h

/-- the decision table of `apply_query`, read off the statement: with `ov` the overlaid fields
    and `ts` the types fitting them,
    * no type                                  → refused
    * exactly one type `t`                     → applied with `t`
    * several types, the old type among them   → applied with the old type
    * several types, old type not among them   → applied with the first one if the expression is
                                                 a search, refused otherwise.
    "refused" = type and fields untouched, the query text kept visibly in the string;
    "applied with t" = the string is the rendering of `ov` through `t` and the fields are what
    that rendering resolves to under `t`. -/
theorem c04_apply_table (string query ty : Str) (fields ov : Dict) (ts : List Str)
    (hty : ¬ (ty.isEmpty = true ∧ fields.isEmpty = false)) (hq : query ≠ [])
    (hov : Query.update fields query = .ok ov) (hts : c.dictToTypes ov = .ok ts) :
    let refused : Except Err Sid := .ok ⟨string ++ '?' :: query, ty, fields⟩
    let applied (t : Str) : Except Err Sid :=
      match c.dictToSidStr ov t with
      | .error e => .error e
      | .ok ns =>
        if ns.isEmpty then .error .spil else
        match c.sidToDict ns (some t) with
        | .error e => .error e
        | .ok r => .ok ⟨ns, t, (r.map (·.2)).getD ov⟩
    c.applyQuery string query ty fields =
      match ts with
      | [] => refused
      | [t] => applied t
      | t :: _ =>
        if ts.contains ty then applied ty
        else if c.isSearchStr (string ++ '?' :: query) then applied t
        else refused := by
  intro refused applied
  have h1 : (ty.isEmpty && !fields.isEmpty) = false := by
    cases h : ty.isEmpty <;> cases h' : fields.isEmpty <;> simp_all
  have h2 : query.isEmpty = false := by simp [hq]
  unfold Ctx.applyQuery
  simp only [h1, h2, Bool.false_eq_true, if_false, hov, hts]
  match ts with
  | [] => rfl
  | [t] => rfl
  | t :: t' :: rest =>
    simp only
    by_cases hc : (t :: t' :: rest).contains ty = true
    · simp only [hc, if_true]; rfl
    · simp only [hc]
      by_cases hs : c.isSearchStr (string ++ '?' :: query) = true
      · simp only [hs, if_true]; rfl
      · simp only [hs]; rfl

/-- `apply_query` once it has decided on type `t`.  `c04_apply_table` spells the same body as a `let`
    (`applied`): its statement is self-contained, and a declaration with this `match` placed before
    it would own the matcher its statement mentions. -/
def applyAs (ov : Dict) (t : Str) : Except Err Sid :=
  match c.dictToSidStr ov t with
  | .error e => .error e
  | .ok ns =>
    if ns.isEmpty then .error .spil else
    match c.sidToDict ns (some t) with
    | .error e => .error e
    | .ok r => .ok ⟨ns, t, (r.map (·.2)).getD ov⟩

theorem applyAs_eq (hwf : sidTableOk c.env c.cfg.sid.templates = true) (ov : Dict)
    (hr : ∀ t ∈ c.cfg.sid.templates, Dict.keysEq ov (keysOf t.2) = true → renderable (rendered t.2 ov))
    (hslash : ∀ p ∈ ov, '/' ∉ p.2) (a : Str × Template) (ha : a ∈ c.cfg.sid.templates)
    (hfit : fits c.env ov a.2 = true) : applyAs c ov a.1 = .ok (sidVia ov a) := by
  unfold applyAs
  have hne : (rendered a.2 ov).isEmpty = false := by simp [(hr a ha (fits_iff.mp hfit).1).1]
  simp only [dictToSidStr_of_fits c hwf ov hr a ha hfit, hne, sidToDict_rendered c hwf ov hr a ha hfit hslash,
    Bool.false_eq_true, if_false, Option.map_some, Option.getD_some]
  rfl

theorem applyAs_inv {ov : Dict} {t : Str} {x : Sid} (h : applyAs c ov t = .ok x) :
    c.dictToSidStr ov t = .ok x.string ∧ x.string ≠ [] ∧ x.type = t ∧
      ∃ r, c.sidToDict x.string (some t) = .ok r ∧ x.fields = (r.map (·.2)).getD ov := by
  unfold applyAs at h
  split at h
  · cases h
  · next ns hns =>
    split at h
    · cases h
    · next hne =>
      split at h
      · cases h
      · next r hr => cases h; exact ⟨hns, by simpa using hne, rfl, r, hr, rfl⟩

section table

variable {string query ty : Str} {fields ov : Dict}
  (hty : ¬ (ty.isEmpty = true ∧ fields.isEmpty = false)) (hq : query ≠ [])
  (hov : Query.update fields query = .ok ov)
include hty hq hov

/-- the decision table, coarsely: refused, or applied with a listed type -/
theorem applyQuery_cases {ts : List Str} (hts : c.dictToTypes ov = .ok ts) :
    c.applyQuery string query ty fields = .ok ⟨string ++ '?' :: query, ty, fields⟩ ∨
      ∃ t ∈ ts, c.applyQuery string query ty fields = applyAs c ov t := by
  rw [c04_apply_table c string query ty fields ov ts hty hq hov hts]
  rcases ts with _ | ⟨t, _ | ⟨t', rest⟩⟩
  · exact Or.inl rfl
  · exact Or.inr ⟨t, by simp, rfl⟩
  · simp only
    split
    · next hc => exact Or.inr ⟨ty, by simpa using hc, rfl⟩
    · split
      · exact Or.inr ⟨t, by simp, rfl⟩
      · exact Or.inl rfl

/-- the rows of the table that apply the first listed type -/
theorem applyQuery_first {t : Str} {rest : List Str} (hts : c.dictToTypes ov = .ok (t :: rest))
    (hni : ty ∉ t :: rest) (h : rest = [] ∨ c.isSearchStr (string ++ '?' :: query) = true) :
    c.applyQuery string query ty fields = applyAs c ov t := by
  rw [c04_apply_table c string query ty fields ov _ hty hq hov hts]
  cases rest with
  | nil => rfl
  | cons t' rest =>
    have hc : (t :: t' :: rest).contains ty = false := by
      simpa [List.contains_iff_mem] using hni
    simp only [hc, h.resolve_left (by simp), Bool.false_eq_true, if_false, if_true]
    rfl

end table

/-- all-or-nothing, for well-formed configurations: applying a query to a well-typed Sid never
    fails, and the result either is the refusal (type and fields untouched, "?query" appended) or
    is a well-typed Sid whose fields are exactly the overlay (as a mapping), in template order,
    with a clean canonical string -/
theorem c04_all_or_nothing (x : Sid) (hwf : sidHierOk c.env c.cfg.sid.templates = true)
    (hx : wellTyped c.env c.cfg.sid.templates x) (query : Str) (hq : query ≠ [])
    (ov : Dict) (hov : Query.update x.fields query = .ok ov)
    (hr : ∀ t ∈ c.cfg.sid.templates, Dict.keysEq ov (keysOf t.2) = true →
          renderable (Str.joinWith '/' ((keysOf t.2).map (fun k => (ov.get k).getD []))))
    (hslash : ∀ p ∈ ov, '/' ∉ p.2) :
    ∃ y, c.applyQuery x.string query x.type x.fields = .ok y ∧
      (y = ⟨x.string ++ '?' :: query, x.type, x.fields⟩ ∨
       (wellTyped c.env c.cfg.sid.templates y ∧ (∀ k, y.fields.get k = ov.get k) ∧
        y.fields.length = ov.length)) := by
  have h1 := hier_table hwf
  obtain ⟨tx, htx, _⟩ := wellTyped_typedBy hx
  have hfnd := htx.keys_nodup h1
  have htne := htx.type_ne_nil h1
  have hnd : (ov.map (·.1)).Nodup := by
    unfold Query.update at hov
    split at hov
    · cases hov
    · cases hov; exact UpdL.updateGo_nodup _ _ hfnd
  rcases applyQuery_cases c (ty := x.type) (by simp [htne]) hq hov (dictToTypes_eq c h1 ov hr) with
    h | ⟨t, ht, h⟩
  · exact ⟨_, h, Or.inl rfl⟩
  · -- every type `dict_to_type` lists is applied successfully
    obtain ⟨a, ha, rfl⟩ := List.mem_map.mp ht
    obtain ⟨ha, hfit⟩ := List.mem_filter.mp ha
    exact ⟨_, h.trans (applyAs_eq c h1 ov hr hslash a ha hfit),
      Or.inr (sidVia_wellTyped_fields c h1 ov hr a ha hfit hslash hnd)⟩

/-- `get_with(**kw)`: the result is the empty Sid or a well-typed Sid whose fields are exactly the
    requested overlay (a `None` value removes the key, also when it is absent) -/
theorem c04_get_with_kw (x : Sid) (hwf : sidHierOk c.env c.cfg.sid.templates = true)
    (hx : wellTyped c.env c.cfg.sid.templates x) (kw : List (Str × Option Str))
    (hr : ∀ t ∈ c.cfg.sid.templates, Dict.keysEq (Ctx.overlayKw x.fields kw) (keysOf t.2) = true →
          renderable (Str.joinWith '/' ((keysOf t.2).map (fun k => ((Ctx.overlayKw x.fields kw).get k).getD []))))
    (hslash : ∀ p ∈ Ctx.overlayKw x.fields kw, '/' ∉ p.2) :
    ∃ y, c.getWithKw x kw = .ok y ∧
      (y = Sid.empty ∨
       (wellTyped c.env c.cfg.sid.templates y ∧ (∀ k, y.fields.get k = (Ctx.overlayKw x.fields kw).get k) ∧
        y.fields.length = (Ctx.overlayKw x.fields kw).length)) := by
  have h1 := hier_table hwf
  obtain ⟨tx, htx, _⟩ := wellTyped_typedBy hx
  have hnd := UpdL.overlayKw_nodup _ kw (htx.keys_nodup h1)
  unfold Ctx.getWithKw Ctx.sidOfFields
  split
  · exact ⟨_, rfl, Or.inl rfl⟩
  split
  · exact ⟨_, rfl, Or.inl rfl⟩
  rw [dictToSid_eq c h1 _ hr hslash]
  cases hfind : c.cfg.sid.templates.find? (fun a => fits c.env (Ctx.overlayKw x.fields kw) a.2) with
  | none => exact ⟨_, rfl, Or.inl rfl⟩
  | some a =>
    exact ⟨_, rfl, Or.inr (sidVia_wellTyped_fields c h1 _ hr a (List.mem_of_find?_eq_some hfind)
      (List.find?_some (p := fun a : Str × Template => fits c.env (Ctx.overlayKw x.fields kw) a.2) hfind)
      hslash hnd)⟩

/-- the keyword overlay, pointwise -/
theorem c04_overlay_kw (fields : Dict) (kw : List (Str × Option Str)) (hn : (kw.map (·.1)).Nodup)
    (hf : (fields.map (·.1)).Nodup) (k : Str) :
    (Ctx.overlayKw fields kw).get k =
      match kw.lookup k with
      | some (some v) => some v
      | some none => none
      | none => fields.get k := by
  have _ := hf  -- not needed: only the keywords have to be distinct
  exact UpdL.overlayKw_get fields kw hn k

/-- query round trip (C02): for a naturally typed Sid whose values are non-empty and free of
    whitespace and URL metacharacters, `Sid(query=sid.as_query())` is the Sid, provided its field
    set fits a single type or the Sid is a search (otherwise `apply_query` refuses to guess).
    The characters `hvals` excludes are those of `UpdL.plain`. -/
-- In the search alternative of `huniq`, `∀ sym ∈ searchSymbols, '/' ∉ sym` (the search symbols
-- are '/'-free, as they are in every shipped configuration) is needed: `as_query()` spells the
-- values one by one, so a search symbol that straddles a '/' of the string is not visible in the
-- query, `apply_query` does not see a search and refuses to pick among several types.
-- Counterexample: table
--   a = {k:[^/]*}   b = {k:[^/]*}/{j:[^/]*}   b2 = {k:[^/]*}/{j:[^/]*}
-- (satisfies `sidHierOk`) with `searchSymbols = ["x/y"]`: the Sid "x/y" is naturally typed `b`
-- with fields `{k: x, j: y}`, is a search, `dict_to_type` gives `[b, b2]`, `as_query()` is
-- "k=x&j=y", and `Sid(query="k=x&j=y")` is the untyped Sid with string "?k=x&j=y".
theorem c02_query (x : Sid) (hwf : sidHierOk c.env c.cfg.sid.templates = true)
    (hx : natural c.env c.cfg.sid.templates x) (hr : renderable x.string)
    (hvals : ∀ p ∈ x.fields, p.2 ≠ [] ∧ p.1 ≠ [] ∧
       ∀ ch ∈ p.1 ++ p.2, ch ∉ ['&', '=', '#', '?', '%', '+', ' ', '\t', '\r', '\n', '~'])
    (huniq : c.dictToTypes x.fields = .ok [x.type] ∨
      (c.isSearch x = true ∧ ∀ sym ∈ c.cfg.sid.searchSymbols, '/' ∉ sym)) :
    c.sidOfQuery (Ctx.asQuery x) = .ok x := by
  have h1 := hier_table hwf
  obtain ⟨t, ht, hfind⟩ := natural_find_fits hwf hx (.refl x.fields)
  have hfne := ht.fields_ne_nil h1
  have hfnd := ht.keys_nodup h1
  have hstr := UpdL.toString_plain x.fields hvals
  have htd := UpdL.toDict_toString x.fields hvals hfne hfnd
  have hj := Str.join_split '/' x.string
  generalize hq : Query.toString x.fields = q at hstr htd
  have hqne : q ≠ [] := by
    rintro rfl
    exact hfne (Except.ok.inj htd).symm
  have hov : Query.update [] q = .ok x.fields := hq ▸ UpdL.update_toString x.fields hfne hfnd hvals
  have hd := ht.dictOf hwf (.refl x.fields)
  have hrs := hd.rendered_renderable (hj.symm ▸ hr)
  -- whatever `apply_query` decides, it decides `x.type`, and applying `x.type` gives `x` back
  have happ : applyAs c x.fields x.type = .ok x := by
    rw [applyAs_eq c h1 x.fields hrs (hd.noSlash (Str.splitOn_not_mem '/' x.string)) (x.type, t)
      ht.mem (List.find?_some (p := fun a : Str × Template => fits c.env x.fields a.2) hfind),
      hd.sidVia_eq (a := (x.type, t)) rfl, hj]
    exact congrArg Except.ok (HierL.sid_eta x _ ht.fields)
  -- `dict_to_type x.fields` lists `x.type` first, and no empty label
  have hts := dictToTypes_eq c h1 x.fields hrs
  have hni : ([] : Str) ∉ (c.cfg.sid.templates.filter (fun a => fits c.env x.fields a.2)).map (·.1) :=
    fun h => by
      obtain ⟨b, hb, hb0⟩ := List.mem_map.mp h
      exact tableOk_label_ne_nil _ _ h1 b (List.mem_filter.mp hb).1 hb0
  obtain ⟨rest, hfilt⟩ := Lst.filter_of_find _ _ _ hfind
  rw [hfilt] at hts hni
  rw [Ctx.asQuery, hq, UpdL.sidOfQuery_eq c q hqne, ← happ]
  refine applyQuery_first c (ty := []) (fields := []) (by simp) hqne hov hts hni (huniq.imp (fun hu => ?_) fun hs => ?_)
  · rw [hts] at hu
    exact (List.cons.inj (Except.ok.inj hu)).2
  · -- a search: the symbols are '/'-free, so one of them lies in a value, which the query spells
    rw [hstr]
    exact UpdL.isSearchStr_pieces c hs.2 x.fields hfne (by rw [ht.vals, hj]; exact hs.1)

end C04

namespace C14

/-- two Sids are equal exactly when their uris are equal -/
theorem c14_eq (x y : Sid) : Sid.eqv x y = true ↔ x.uri = y.uri := by
  simp [Sid.eqv]

/-- equal Sids hash equally (`hash(sid) = hash(repr(sid))`) -/
theorem c14_hash (x y : Sid) (h : Sid.eqv x y = true) : Sid.repr x = Sid.repr y := by
  unfold Sid.repr
  rw [(c14_eq x y).mp h]

/-- different uris give different reprs: the hash key is faithful -/
theorem c14_repr_inj (x y : Sid) (h : Sid.repr x = Sid.repr y) : x.uri = y.uri := by
  unfold Sid.repr at h
  rw [List.append_assoc, List.append_assoc] at h
  exact List.append_cancel_right (List.append_cancel_left h)

/-- the uri determines type and string when the type names contain no ':' and the string of an
    untyped Sid contains none either -/
theorem c14_uri_inj (x y : Sid) (hx : ':' ∉ x.type) (hy : ':' ∉ y.type)
    (hxs : x.type = [] → ':' ∉ x.string) (hys : y.type = [] → ':' ∉ y.string)
    (h : x.uri = y.uri) : x.type = y.type ∧ x.string = y.string := by
  by_cases h1 : x.type = [] <;> by_cases h2 : y.type = []
  · rw [HierL.uri_of_type_nil h1, HierL.uri_of_type_nil h2] at h
    exact ⟨by rw [h1, h2], h⟩
  · rw [HierL.uri_of_type_nil h1, HierL.uri_of_type_ne_nil h2] at h
    exact absurd (h ▸ by simp) (hxs h1)
  · rw [HierL.uri_of_type_ne_nil h1, HierL.uri_of_type_nil h2] at h
    exact absurd (h ▸ by simp) (hys h2)
  · rw [HierL.uri_of_type_ne_nil h1, HierL.uri_of_type_ne_nil h2] at h
    exact Str.first_sep_unique ':' _ _ _ _ hx hy h

/-- sorting Sids (`sorted`, through `__lt__`) orders them by string and only permutes them -/
theorem c14_sort (xs : List Sid) :
    (Lst.sortBy Sid.lt xs).Perm xs ∧
    (Lst.sortBy Sid.lt xs).Pairwise (fun a b => Str.lt b.string a.string = false) :=
  ⟨Lst.sortBy_perm _ _, Lst.sortBy_pairwise_le Sid.lt (fun a b c => Str.lt_sto.trans a.string b.string c.string)
    (fun _ _ => Str.lt_sto.asymm) xs⟩

end C14
