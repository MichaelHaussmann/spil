/-
  Spil.Props.Tie — translation validation: the model's own re-computation of what
  `spil.conf.util`, `sid_conf_load` and `resolva` built must equal what the translator read from
  the live objects.  Re-decided by the kernel on every run against the regenerated DemoConf.
-/
import Spil.Generated.DemoConf
import Spil.Spec.Sid
import Spil.Spec.PathWF
import Spil.Lemmas.PathXL

open Generated

namespace Tie

def compiled (ts : List (Str × Template)) : List (Str × Re) := ts.map (fun p => (p.1, Template.compile p.2))
def formats (ts : List (Str × Template)) : List (Str × Str) := ts.map (fun p => (p.1, Template.formatStr p.2))
def keySetsOk (ts : List (Str × Template)) (ks : List (Str × List Str)) : Bool :=
  ts.length == ks.length &&
  (ts.zip ks).all (fun (t, k) => t.1 == k.1 && k.2.all (fun x => (Template.keys t.2).contains x)
    && (Template.keys t.2).all (fun x => k.2.contains x))

/-- the model of `resolva.template.construct_regular_expression`, run on the translated tokens,
    reproduces the regular expression resolva compiled (parsed from `regex.pattern`) -/
theorem compile_ok_sid : compiled demoSidTemplates = demoSidRegexes := by decide +kernel
theorem compile_ok_local : compiled demoPath_localTemplates = demoPath_localRegexes := by decide +kernel
theorem compile_ok_server : compiled demoPath_serverTemplates = demoPath_serverRegexes := by decide +kernel

/-- likewise for `construct_format_specification` -/
theorem format_ok_sid : formats demoSidTemplates = demoSidFormats := by decide +kernel
theorem format_ok_local : formats demoPath_localTemplates = demoPath_localFormats := by decide +kernel
theorem format_ok_server : formats demoPath_serverTemplates = demoPath_serverFormats := by decide +kernel

theorem keys_ok_sid : keySetsOk demoSidTemplates demoSidKeys = true := by decide +kernel
theorem keys_ok_local : keySetsOk demoPath_localTemplates demoPath_localKeys = true := by decide +kernel
theorem keys_ok_server : keySetsOk demoPath_serverTemplates demoPath_serverKeys = true := by decide +kernel

/-- duplicate-placeholder flags as Spil sets them: off for 'sid', on for path resolvers -/
theorem checkdup_ok : demoSidCheckDup = false ∧ demoPath_localCheckDup = true ∧ demoPath_serverCheckDup = true := by
  decide

/-- the model of `extrapolate_templates` followed by `pattern_replacing`, run on the raw
    `spil_sid_conf` values, reproduces the effective `spil.conf.sid_templates` -/
theorem extrapolate_ok :
    ConfUtil.patternReplacing
      (ConfUtil.extrapolateTemplates demoSidConf.sep demoRawTemplates demoToExtrapolate)
      demoRawKeyPatterns = demoEffectiveTemplates := by decide +kernel

/-- the effective templates are what the 'sid' Resolver was given -/
theorem patterns_ok : demoSidPatterns = demoEffectiveTemplates := rfl

/-- the shipped sid template table follows the documented conventions the generic theorems assume
    (placeholders separated by '/', slash-free group-free expressions that are free or
    newline-free, distinct keys, distinct non-empty plain labels, same key set ⇒ same key order,
    every level has a type) -/
theorem demo_wf : Spec.sidHierOk demoEnv demoConf.sid.templates = true := by decide +kernel

/-- the shipped path configurations use neither a typed mapping nor extra keys: the whole-code path
    model the driver runs (`Spil.Model.PathX`) is, on this configuration, the model the C05 / C06 /
    C11 theorems are about (`PathXL.sidOfPathX_eq`, `sidPathX_eq`, `pathToDictX_eq`) -/
theorem demo_paths_plain : PathXL.allPlain demoConf = true := by decide +kernel

/-- … so what the driver answers for `Sid(path=p, config=c)` and `sid.path(c)` under the shipped
    configuration is what the theorems speak about, for every path, Sid and configuration name -/
theorem demo_driver_paths (path : Str) (config : Option Str) (x : Sid) :
    (Ctx.mk demoConf demoEnv).sidOfPathX path config = (Ctx.mk demoConf demoEnv).sidOfPath path config ∧
    (Ctx.mk demoConf demoEnv).sidPathX config x = (Ctx.mk demoConf demoEnv).sidPath config x :=
  ⟨PathXL.sidOfPathX_eq _ demo_paths_plain path config, PathXL.sidPathX_eq _ demo_paths_plain config x⟩

/-- the shipped path configurations follow the conventions the deterministic-parse theorems assume
    (per '/'-free stretch at most one free placeholder, prefix-free vocabularies to its left,
    suffix-free ones to its right; '/'- and newline-free vocabularies; idempotent value mappings whose
    first word per sid value is acceptable (they are one-to-one here); acceptable defaults; unique
    labels) -/
theorem demo_path_wf_local : Spec.pathConfOk demoEnv demoPath_local = true := by decide +kernel
theorem demo_path_wf_server : Spec.pathConfOk demoEnv demoPath_server = true := by decide +kernel

/-- the shipped path templates are mutually exclusive, in BOTH directions (the order of the templates
    does not matter): no template matches a path that ANOTHER template renders from admissible concrete
    values (`Spec.tplExcl`: the pairs with equally many '/' are told apart by the folder `ASSETS` /
    `SHOTS`, by the extension vocabularies read from the right, or by `{task}` / `{state}` after
    the common prefix `{sequence}_{shot}_` of the file name) -/
theorem demo_paths_exclusive_both_local : demoPath_local.templates.all (fun a =>
    demoPath_local.templates.all (fun b =>
      a.1 == b.1 || Spec.tplExcl demoEnv demoConf.sid.searchSymbols a.2 b.2)) = true := by
  decide +kernel
theorem demo_paths_exclusive_both_server : demoPath_server.templates.all (fun a =>
    demoPath_server.templates.all (fun b =>
      a.1 == b.1 || Spec.tplExcl demoEnv demoConf.sid.searchSymbols a.2 b.2)) = true := by
  decide +kernel

/-- … in particular in the order `resolve_first` tries them, which is what C05 asks -/
theorem demo_paths_exclusive_local :
    Spec.pathsExclusive demoEnv demoConf.sid.searchSymbols demoPath_local = true :=
  Spec.pathsExclusive_of_pairs _ _ _ (Spec.pathConfOk_labels _ _ demo_path_wf_local) demo_paths_exclusive_both_local
theorem demo_paths_exclusive_server :
    Spec.pathsExclusive demoEnv demoConf.sid.searchSymbols demoPath_server = true :=
  Spec.pathsExclusive_of_pairs _ _ _ (Spec.pathConfOk_labels _ _ demo_path_wf_server) demo_paths_exclusive_both_server

/-- concreteness matters: as LANGUAGES the templates overlap (every vocabulary has `\*` and `\>`),
    e.g. `…/HAMLET/PROD/*` is matched by `asset` and by `shot` -/
theorem demo_paths_not_exclusive_with_symbols :
    Spec.pathsExclusive demoEnv [] demoPath_local = false := by decide +kernel

end Tie
