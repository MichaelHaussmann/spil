/-
  Spil.Props.C11d — the options of `FindInList` are about speed and order, not about the answer.
  `FindInList(L, do_pre_sort=True)` searches `sorted(set(L))` instead of `L`.  For star searches the
  answer is the same SET, without duplicates in both cases (below, from `C08.c08_star_search_mem`, which
  holds for EVERY list); for '>' searches it is the same LIST, because `sorted_search` sorts what was
  found anyway (`C09.c09_pick_set`).
-/
import Spil.Props.C08
import Spil.Lemmas.Lst

namespace C11

open Spec Find

/-- the list a pre-sorted Finder holds has the same members as the list it was given -/
theorem c11_presort_list_mem (l : List Str) (x : Str) :
    x ∈ (mkListFinder l false true false).searchlist ↔ x ∈ (mkListFinder l false false false).searchlist := by
  simp only [mkListFinder, Bool.false_eq_true, if_false, if_true]
  rw [Lst.mem_sortBy, Lst.mem_dedupBy]

/-- STAR SEARCHES: with and without `do_pre_sort`, the same entries are found, each once -/
theorem c11_presort_same_set (e : Env) (l : List Str) (pats : List Str) (hb : ∀ p ∈ pats, '[' ∉ p)
    (r r' : List Str)
    (hr : starSearch e (mkListFinder l false false false) pats = .ok r)
    (hr' : starSearch e (mkListFinder l false true false) pats = .ok r') :
    r.Nodup ∧ r'.Nodup ∧ ∀ x, x ∈ r' ↔ x ∈ r := by
  -- `mkListFinder` computes: the plain Finder holds `l`, the pre-sorted one `sorted(set(l))`
  obtain ⟨n1, m1⟩ := C08.c08_star_search_mem e l pats hb r hr
  obtain ⟨n2, m2⟩ := C08.c08_star_search_mem e (Lst.sortBy Str.lt (Lst.dedupBy (· == ·) l)) pats hb r' hr'
  refine ⟨n1, n2, fun x => ?_⟩
  rw [m1, m2, Lst.mem_sortBy, Lst.mem_dedupBy]

/-- both Finders succeed on `[`-free patterns (no error can distinguish them) -/
theorem c11_presort_total (e : Env) (l : List Str) (pats : List Str) (hb : ∀ p ∈ pats, '[' ∉ p) :
    (∃ r, starSearch e (mkListFinder l false false false) pats = .ok r) ∧
    (∃ r', starSearch e (mkListFinder l false true false) pats = .ok r') :=
  ⟨⟨_, C08.c08_star_search e l pats hb⟩,
    ⟨_, C08.c08_star_search e (Lst.sortBy Str.lt (Lst.dedupBy (· == ·) l)) pats hb⟩⟩

private def okIsL (x : Except Err (List Str)) (y : List Str) : Bool :=
  match x with | .ok v => v == y | .error _ => false

/-- a concrete instance: an unsorted list with a repeated entry; the plain Finder answers in list order,
    the pre-sorted one in sorted order, the same two entries -/
example : okIsL (starSearch ⟨fun _ => false⟩ (mkListFinder [['b','/','x'], ['a','/','x'], ['b','/','x'], ['c']] false false false) [['*','/','x']])
      [['b','/','x'], ['a','/','x']] = true ∧
    okIsL (starSearch ⟨fun _ => false⟩ (mkListFinder [['b','/','x'], ['a','/','x'], ['b','/','x'], ['c']] false true false) [['*','/','x']])
      [['a','/','x'], ['b','/','x']] = true := by decide

end C11
