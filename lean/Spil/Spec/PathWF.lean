/-
  Spil.Spec.PathWF — decidable conventions on PATH templates ("file-name separators",
  "mutually exclusive value patterns", "one-to-one value mappings") under which a rendered path is
  parsed back deterministically by its own template.
-/
import Spil.Model.Path

namespace Spec

/-- a closed expression as a fixed sequence of single-character classes (literal / digit only) -/
def seqOf : Re → Option (List Cls)
  | .eps => some []
  | .cls (.lit c) => some [.lit c]
  | .cls .digit => some [.digit]
  | .seq a b => match seqOf a, seqOf b with
    | some x, some y => some (x ++ y)
    | _, _ => none
  | _ => none

/-- a closed expression as alternatives of fixed class sequences: `(w1|w2|…)` -/
def altsOf? : Re → Option (List (List Cls))
  | .cgrp r => altsOf? r
  | .alt a b => match altsOf? a, altsOf? b with
    | some x, some y => some (x ++ y)
    | _, _ => none
  | r => (seqOf r).map (fun w => [w])

/-- may the two classes accept a common character? (exact for literal / digit) -/
def clsMeet (e : Env) : Cls → Cls → Bool
  | .lit a, .lit b => a == b
  | .lit a, .digit => e.isDigit a
  | .digit, .lit b => e.isDigit b
  | .digit, .digit => true
  | _, _ => true

/-- could a word of `a` be a prefix of (or equal to) a word of `b`? -/
def prefixCompat (e : Env) : List Cls → List Cls → Bool
  | [], _ => true
  | _ :: _, [] => false
  | x :: xs, y :: ys => clsMeet e x y && prefixCompat e xs ys

/-- no word of one alternative is a PROPER prefix of a word of another alternative -/
def prefixFree (e : Env) (alts : List (List Cls)) : Bool :=
  alts.all (fun a => alts.all (fun b => !(a.length < b.length && prefixCompat e a b)))

def suffixFree (e : Env) (alts : List (List Cls)) : Bool := prefixFree e (alts.map List.reverse)

/-- the atoms of one '/'-free stretch of a path template -/
inductive Atom
  | cls (k : Cls)                                   -- one character of literal template text
  | closed (key : Str) (alts : List (List Cls))     -- a placeholder with a closed vocabulary
  | free (key : Str)                                -- a placeholder with the default `[^/]*`
  deriving Repr, DecidableEq

/-- all atoms of a template in order; a literal '/' is the atom `cls (lit '/')`.  `none` when a
    placeholder expression is neither `[^/]*` nor an alternation of literal / digit words.
    (`segsOf` below cuts the list at the '/' atoms.) -/
def flatAtoms : Template → Option (List Atom)
  | [] => some []
  | .lit s :: rest =>
    match flatAtoms rest with
    | some as => some (s.map (fun ch => Atom.cls (Template.litCls ch)) ++ as)
    | none => none
  | .ph k e :: rest =>
    if e == Re.star Cls.notSlash then
      match flatAtoms rest with
      | some as => some (Atom.free k :: as)
      | none => none
    else match altsOf? e, flatAtoms rest with
      | some alts, some as => some (Atom.closed k alts :: as)
      | _, _ => none

/-- the atom of a literal '/' -/
def Atom.isSlash : Atom → Bool
  | .cls (.lit c) => c == '/'
  | _ => false

/-- cut a list of atoms at every '/' atom: the first segment and the remaining ones -/
def splitSegs : List Atom → List Atom × List (List Atom)
  | [] => ([], [])
  | a :: as =>
    if a.isSlash then ([], (splitSegs as).1 :: (splitSegs as).2)
    else (a :: (splitSegs as).1, (splitSegs as).2)

/-- the '/'-free stretches of a list of atoms (always at least one) -/
def segsOf (fl : List Atom) : List (List Atom) := (splitSegs fl).1 :: (splitSegs fl).2

/-- atoms of a template, split into segments at every literal '/' -/
def atomsOf (t : Template) : Option (List (List Atom)) := (flatAtoms t).map segsOf

def Atom.isFree : Atom → Bool
  | .free _ => true
  | _ => false

def leftOk (e : Env) : Atom → Bool
  | .cls _ => true
  | .closed _ alts => prefixFree e alts
  | .free _ => false

def rightOk (e : Env) : Atom → Bool
  | .cls _ => true
  | .closed _ alts => suffixFree e alts
  | .free _ => false

/-- a segment parses deterministically: at most one free placeholder; everything to its left has
    a prefix-free language, everything to its right a suffix-free one (without a free placeholder:
    some split point works): the segment is `L ++ [free] ++ R` or `L ++ R` with `L` left-ok and
    `R` right-ok. -/
def segDet (e : Env) : List Atom → Bool
  | [] => true
  | a :: as =>
    (leftOk e a && segDet e as) || (a.isFree && as.all (rightOk e)) || (a :: as).all (rightOk e)

/-- per-atom conventions: the classes of a closed vocabulary accept neither '/' nor a newline,
    literal template text contains no newline.  Without '/'-freeness `c05_own_parse` is false
    (`{x:(a|a/b)}/{z:(b/c|c)}` renders x=a/b, z=c as `a/b/c` and reads back x=a, z=b/c); without
    newline-freeness `c06_no_clash` is false (`{x:(a\n|a)}/{x:(a|a\n)}` renders x=a\n as
    `a\n/a\n`, and `$` lets the second group capture `a`: duplicate clash). -/
def atomOk (e : Env) : Atom → Bool
  | .cls k => k.nlFree e
  | .closed _ alts => !alts.isEmpty &&
      alts.all (fun w => !w.isEmpty && w.all (fun k => k.slashFree e && k.nlFree e))
  | .free _ => true

/-- the key of a placeholder occurs fewer than 1000 times in the template `T`
    (resolva numbers repeated groups with `%03d` and strips exactly three characters) -/
def keyCountOk (T : Template) : Tok → Bool
  | .ph k _ => decide (Template.countKey k T < 1000)
  | .lit _ => true

/-- a path template follows the conventions: every segment parses deterministically (`segDet`),
    every atom is `atomOk`, no key occurs 1000 times (`keyCountOk`) -/
def pathTplOk (e : Env) (t : Template) : Bool :=
  match flatAtoms t with
  | none => false
  | some fl => (segsOf fl).all (segDet e) && fl.all (atomOk e) &&
      t.all (keyCountOk t)

/-- the values handed to a template are ones it can render and read back: closed placeholders get
    a word of their vocabulary, free ones a '/'-free string -/
def valuesOk (e : Env) (t : Template) (data : Dict) : Bool :=
  t.all (fun tok => match tok with
    | .lit _ => true
    | .ph k ex =>
      match data.get k with
      | none => false
      | some v => if ex == Re.star Cls.notSlash then !Str.hasChar '/' v else ex.accepts e v)

def distinctStr : List Str → Bool
  | [] => true
  | k :: ks => !ks.contains k && distinctStr ks

/-- `utils.get_key(mapping, value, default=value)` (as `Ctx.getKey`, restated here for the conventions) -/
def firstKey (m : List (Str × Str)) (value : Str) : Str :=
  match m.find? (·.2 == value) with
  | some (k, _) => k
  | none => value

/-- the value mapping of a key: path-side words are distinct (they are the keys of a Python dict),
    no sid-side value is itself a word the path expression of that key accepts ("idempotent"), and
    the word a sid value is RENDERED with — the first path word listed for it — is acceptable
    wherever a path word of that value is (trivially so for a one-to-one mapping).
    Sid-side values need not be distinct: two disk words may denote one sid value ("if the value
    exists multiple times, the first one is returned", `spil_fs_conf.py`).
    Sid-side values are non-empty: an empty sid value is not mapped back by `dict_to_path`, so the
    path would be re-rendered with an empty field and `c06_total` would be false (counterexample in
    `Spil/Props/C05b.lean`). -/
def mappingOk (e : Env) (pc : PathConf) : Bool :=
  pc.mapping.all (fun km =>
    distinctStr (km.2.map (·.1)) &&
    km.2.all (fun pv => !pv.2.isEmpty) &&
    pc.templates.all (fun lt => lt.2.all (fun tok => match tok with
      | .ph k ex => k != km.1 ||
          (km.2.all (fun pv => !(ex.accepts e pv.2)) &&
           km.2.all (fun pv => !(ex.accepts e pv.1) || ex.accepts e (firstKey km.2 pv.2)))
      | _ => true)))

/-- the key has no (non-empty) value mapping -/
def unmapped (pc : PathConf) (k : Str) : Bool :=
  match pc.mapping.lookup k with
  | some m => m.isEmpty
  | none => true

/-- a path configuration follows the conventions.  Template labels are unique (they are the keys
    of a Python dict).  A default may concern a FREE key (a folder level that is no Sid key, filled
    by `path_defaults`) provided that key has no value mapping and the default is '/'-free. -/
def pathConfOk (e : Env) (pc : PathConf) : Bool :=
  distinctStr (pc.templates.map (·.1)) &&
  pc.templates.all (fun lt => pathTplOk e lt.2) && mappingOk e pc &&
  -- defaults are words the expression of their key accepts; a closed placeholder never yields an
  -- empty value, a free one may (the default then replaces it): such a key is not mapped
  pc.defaults.all (fun kd => pc.templates.all (fun lt => lt.2.all (fun tok => match tok with
    | .ph k ex => k != kd.1 ||
        (ex.accepts e kd.2 && (!(ex == Re.star Cls.notSlash) || unmapped pc k))
    | _ => true)))

/-- the TEMPLATE half of `pathConfOk`: every path template follows `pathTplOk`.  This is all that
    C05 (`c05_roundtrip`, `c05_injective`) asks of a configuration besides `pathsExclusive`: value
    mappings and defaults enter C05 through the Sid (`C05.Admissible.back` / `.values`), so a
    configuration with two disk words for one sid value, or a default for a free template key, is
    covered although it does not follow `pathConfOk` (which `c06_total` needs). -/
def pathTplsOk (e : Env) (pc : PathConf) : Bool :=
  pc.templates.all (fun lt => pathTplOk e lt.2)

theorem pathTplsOk_of_confOk (e : Env) (pc : PathConf) (h : pathConfOk e pc = true) :
    pathTplsOk e pc = true := by
  simp only [pathConfOk, Bool.and_eq_true] at h
  exact h.1.1.2

theorem pathConfOk_labels (e : Env) (pc : PathConf) (h : pathConfOk e pc = true) :
    distinctStr (pc.templates.map (·.1)) = true := by
  simp only [pathConfOk, Bool.and_eq_true] at h
  exact h.1.1.1

theorem pathTplsOk_tpl (e : Env) (pc : PathConf) (h : pathTplsOk e pc = true) (l : Str) (t : Template)
    (hm : (l, t) ∈ pc.templates) : pathTplOk e t = true := by
  simp only [pathTplsOk, List.all_eq_true] at h
  exact h (l, t) hm

/-! ### mutually exclusive templates (C05c)

  `tplExcl e syms A B` decides a sufficient condition for "no path that `B` renders from
  admissible CONCRETE values is matched by the regular expression of `A`"; `pathsExclusive` asks it
  of every template against every EARLIER template of the configuration (the order in which
  `Resolver.resolve_first` tries them).  Soundness: `Spil/Lemmas/ExclTpl.lean` (`Excl.search_none`). -/

/-- an alternative of a vocabulary that spells a search symbol literally (`\*`, `\>`) -/
def isSymWord (syms : List Str) (w : List Cls) : Bool := syms.any (fun s => w == s.map Cls.lit)

/-- the CONCRETE words of a vocabulary: the alternatives that are not a search symbol -/
def concAlts (syms : List Str) (alts : List (List Cls)) : List (List Cls) :=
  alts.filter (fun w => !isSymWord syms w)

/-- the atom restricted to its concrete words -/
def Atom.conc (syms : List Str) : Atom → Atom
  | .closed k alts => .closed k (concAlts syms alts)
  | a => a

/-- the atom read from right to left -/
def Atom.rev : Atom → Atom
  | .closed k alts => .closed k (alts.map List.reverse)
  | a => a

/-- a list of atoms read from right to left -/
def revAtoms (fl : List Atom) : List Atom := (fl.map Atom.rev).reverse

/-- the words of a non-free atom, as class sequences -/
def Atom.words : Atom → Option (List (List Cls))
  | .cls k => some [[k]]
  | .closed _ alts => some alts
  | .free _ => none

/-- the atom can never consume a '/' -/
def Atom.noSlash (e : Env) : Atom → Bool
  | .cls k => k.slashFree e
  | .closed _ alts => alts.all (fun w => w.all (fun k => k.slashFree e))
  | .free _ => true

/-- two non-free atoms at the same position of a string necessarily read the same prefix of it -/
def skipOk (e : Env) (a b : Atom) : Bool :=
  match a.words, b.words with
  | some X, some Y => prefixFree e (X ++ Y)
  | _, _ => false

/-- two non-free atoms can never read the same position of a string: no word of one is a prefix of
    a word of the other -/
def disjOk (e : Env) (a b : Atom) : Bool :=
  match a.words, b.words with
  | some X, some Y => X.all (fun x => Y.all (fun y => !prefixCompat e x y && !prefixCompat e y x))
  | _, _ => false

/-- the atoms before the first '/' atom and the atoms after it -/
def cutSlash : List Atom → Option (List Atom × List Atom)
  | [] => none
  | a :: as =>
    if a.isSlash then some ([], as)
    else match cutSlash as with
      | some (s, r) => some (a :: s, r)
      | none => none

/-- counting '/': `B` renders exactly one '/' per '/' atom; `A` reads at least one '/' per '/' atom
    and at most one per atom that can consume a '/' (a literal `.` of a template is the wildcard) -/
def slashRule (e : Env) (A B : List Atom) : Bool :=
  Nat.blt (B.countP Atom.isSlash) (A.countP Atom.isSlash) ||
  Nat.blt (A.countP (fun a => !a.noSlash e)) (B.countP Atom.isSlash)

/-- walk the atoms of `A` (the template that tries to match) and of `B` (the template that rendered,
    restricted to concrete words) from the LEFT, both standing at the same position of the string;
    `true` = "they cannot both parse it".  The first argument is fuel (`A.length + 1` suffices:
    every recursive call drops an atom of `A`).
    * one list is exhausted and the other goes on with a non-free atom (a non-empty word without
      newline: neither the end of the string nor the final newline `$` tolerates);
    * the heads are `disjOk`;
    * the heads are `skipOk`: both read the same prefix, go on;
    * otherwise the heads tell nothing (a free placeholder, overlapping vocabularies): count the
      '/' that are left (`slashRule`), or jump in both lists behind the next '/' atom — allowed
      when no atom of `A` before it can consume a '/' (`B` renders exactly one '/' per '/' atom). -/
def lwalk (e : Env) : Nat → List Atom → List Atom → Bool
  | 0, _, _ => false
  | n + 1, A, B =>
    match A, B with
    | [], [] => false
    | [], b :: _ => !b.isFree || slashRule e A B
    | a :: _, [] => !a.isFree || slashRule e A B
    | a :: A', b :: B' =>
      disjOk e a b ||
      (if skipOk e a b then lwalk e n A' B'
       else slashRule e A B ||
        (match cutSlash A, cutSlash B with
         | some (sa, A''), some (_, B'') => sa.all (Atom.noSlash e) && lwalk e n A'' B''
         | _, _ => false))

/-- `A` cannot match what `B` renders: by counting '/', by the walk from the left, or by the same
    walk from the RIGHT on the reversed atoms (only when `B` ends with a non-free atom: then the
    rendered string has no final newline for `$` to skip, so both end at the same position). -/
def atomsExcl (e : Env) (A B : List Atom) : Bool :=
  slashRule e A B || lwalk e (A.length + 1) A B ||
  (match revAtoms B with
   | b :: _ => !b.isFree && lwalk e (A.length + 1) (revAtoms A) (revAtoms B)
   | [] => false)

/-- no path rendered by `B` from admissible concrete values is matched by the regular expression of
    `A` (sufficient condition; `syms` are the search symbols, whose literal alternatives `\*`, `\>`
    of `B`'s vocabularies are never rendered from concrete values) -/
def tplExcl (e : Env) (syms : List Str) (A B : Template) : Bool :=
  match flatAtoms A, flatAtoms B with
  | some fa, some fb => atomsExcl e fa (fb.map (Atom.conc syms))
  | _, _ => false

/-- every template excludes every LATER template of the list -/
def exclEarlier (e : Env) (syms : List Str) : List (Str × Template) → Bool
  | [] => true
  | lt :: rest => rest.all (fun lt' => tplExcl e syms lt.2 lt'.2) && exclEarlier e syms rest

/-- "mutually exclusive value patterns", as `Resolver.resolve_first` needs it: no template matches
    a path rendered (from admissible concrete values) by a template that comes AFTER it -/
def pathsExclusive (e : Env) (syms : List Str) (pc : PathConf) : Bool :=
  exclEarlier e syms pc.templates

/-- templates that exclude one another in BOTH directions do so in table order, whatever the order is -/
theorem exclEarlier_of_pairs (e : Env) (syms : List Str) : ∀ (ts : List (Str × Template)),
    distinctStr (ts.map (·.1)) = true →
    (∀ a ∈ ts, ∀ b ∈ ts, (a.1 == b.1 || tplExcl e syms a.2 b.2) = true) → exclEarlier e syms ts = true
  | [], _, _ => rfl
  | lt :: rest, hd, h => by
    simp only [List.map_cons, distinctStr, Bool.and_eq_true, Bool.not_eq_true',
      List.contains_eq_mem, decide_eq_false_iff_not, List.mem_map, not_exists, not_and] at hd
    simp only [exclEarlier, Bool.and_eq_true, List.all_eq_true]
    refine ⟨fun b hb => ?_, exclEarlier_of_pairs e syms rest hd.2
      (fun a ha b hb => h a (.tail _ ha) b (.tail _ hb))⟩
    have := h lt (.head _) b (.tail _ hb)
    simp only [Bool.or_eq_true, beq_iff_eq] at this
    exact this.resolve_left (fun e' => hd.1 b hb e'.symm)

theorem pathsExclusive_of_pairs (e : Env) (syms : List Str) (pc : PathConf)
    (hd : distinctStr (pc.templates.map (·.1)) = true)
    (h : pc.templates.all (fun a => pc.templates.all (fun b =>
      a.1 == b.1 || tplExcl e syms a.2 b.2)) = true) : pathsExclusive e syms pc = true := by
  simp only [List.all_eq_true] at h
  exact exclEarlier_of_pairs e syms _ hd h

/-- the values handed to a template are CONCRETE: no closed placeholder gets a search symbol
    (`*`, `>`, …) as its value.  Nothing is asked of free placeholders. -/
def concreteOk (syms : List Str) (t : Template) (data : Dict) : Bool :=
  t.all (fun tok => match tok with
    | .lit _ => true
    | .ph k ex => ex == Re.star Cls.notSlash || !(syms.contains ((data.get k).getD [])))

/-! ### the hypotheses of C05 on one Sid, as one Boolean

  `C05.Admissible` (Props/C05c.lean) lists what C05 asks of a Sid `x` with path `p`, each field
  decidable.  `admissibleB` is their conjunction as a Boolean (with the template and the `key_types`
  entry looked up), so that a driver can EVALUATE it and the kernel can decide it in one go:
  `C05.admissible_of_B` turns `admissibleB … = true` into `Admissible`. -/

def nodupStr : List Str → Bool
  | [] => true
  | k :: ks => !ks.contains k && nodupStr ks

def admissibleB (c : Ctx) (pc : PathConf) (x : Sid) (p : Str) : Bool :=
  match pc.resolver.lookup x.type,
        c.cfg.sid.keyTypes.lookup (((Str.splitStr x.type c.cfg.sid.sep).head?).getD []) with
  | some t, some kts =>
    (kts.filter (fun k => (Template.keys t).contains k) == x.fields.map (·.1)) &&
    nodupStr (x.fields.map (·.1)) &&
    (Ctx.mapToSid pc (Ctx.pathData pc x.fields []) == x.fields) &&
    valuesOk c.env t (Ctx.pathData pc x.fields (Template.keys t)) &&
    concreteOk c.cfg.sid.searchSymbols t (Ctx.pathData pc x.fields (Template.keys t)) &&
    (Template.format t (Ctx.pathData pc x.fields (Template.keys t)) == some p) &&
    (match c.dictToSidStr x.fields x.type with
      | .ok s => s == x.string
      | .error _ => false) &&
    !x.string.isEmpty
  | _, _ => false

end Spec
